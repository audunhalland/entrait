import EntraitProofs.Anatomy
/-
  C10 — mock derivations are attached only when enabled, and are test-gated unless exported.

  `T_C10`: for every variant, attribute token list and item the model accepts, the mock
  derivations on the generated / re-emitted trait are exactly `expectedMockKinds` (a function of
  the options in force and the input mode only) followed by the ones the user wrote below
  entrait; delegation-target traits and selector traits carry none.
-/
namespace Entrait.C10
open Entrait

theorem unimockParams_isSome (ind : TraitIndirection) (mockApi : Option String) (mode fns) :
    (unimockParams ind mockApi mode fns).isSome = !(ind == .plain && mockApi.isNone) := by
  unfold unimockParams
  cases ind == .plain && mockApi.isNone <;> rfl

theorem unimockAttr_kinds (opts : Opts) (ind : TraitIndirection) (mode fns) :
    (unimockAttrOf opts ind mode fns).filterMap Attr.mockKind =
    (if opts.unimockValue && !(ind == .plain && opts.mockApi.isNone) then [(MockKind.unimock, !opts.exportValue)] else []) := by
  unfold unimockAttrOf
  cases hu : opts.unimockValue
  · simp
  · have hs := unimockParams_isSome ind opts.mockApi mode fns
    cases hp : unimockParams ind opts.mockApi mode fns with
    | none => rw [hp] at hs; simp at hs; simp [hs]
    | some ps =>
      obtain ⟨x, rfl⟩ := unimockParams_shape hp
      rw [hp] at hs
      simp at hs
      simp [hs, mockKind_unimock]

theorem entraitAttr_kinds (depMode : DepMode) :
    (entraitAttrOf depMode).filterMap Attr.mockKind = [] := by
  cases depMode <;> simp [entraitAttrOf, mockKind_entraitAttr]

theorem mockallAttr_kinds (opts : Opts) :
    (mockallAttrOf opts).filterMap Attr.mockKind =
    (if opts.mockallValue then [(MockKind.automock, !opts.exportValue)] else []) := by
  unfold mockallAttrOf
  cases opts.mockallValue <;> simp [mockKind_mockall]

theorem mockKinds_genTraitDef (opts : Opts) (ind depMode subAttrs vis ident tg sup fns mode) :
    mockKinds (genTraitDef opts ind depMode subAttrs vis ident tg sup fns mode) =
      (if opts.unimockValue && !(ind == .plain && opts.mockApi.isNone) then [(.unimock, !opts.exportValue)] else []) ++
      (if opts.mockallValue then [(.automock, !opts.exportValue)] else []) ++
      (reappliedSubs mode subAttrs).filterMap Attr.mockKind := by
  unfold mockKinds genTraitDef
  simp only [List.filterMap_append, unimockAttr_kinds, entraitAttr_kinds, mockallAttr_kinds, List.append_nil]

theorem mockKinds_no_mock (opts : Opts) (ho : opts.unimockValue = false) (hm : opts.mockallValue = false)
    (subs : List Attr) (hs : ∀ a ∈ subs, a.subKind = .asyncTrait) (ind depMode vis ident tg sup fns mode) :
    mockKinds (genTraitDef opts ind depMode subs vis ident tg sup fns mode) = [] := by
  rw [mockKinds_genTraitDef]
  have : (reappliedSubs mode subs).filterMap Attr.mockKind = [] :=
    List.filterMap_eq_nil_iff.mpr fun a ha => asyncTrait_not_mock a (hs a (mem_reappliedSubs ha))
  simp [ho, hm, this]

theorem mockKinds_delegationTraits {a : TraitAttr} {t : TraitItem} {g : GenTrait} (h : g ∈ delegationTraits a t) :
    mockKinds g = [] := by
  rcases mem_delegationTraits h with ⟨_, _, rfl⟩ | ⟨ind, conv, implIdent, _, rfl⟩
  · rfl
  · have hsub : ∀ a ∈ traitImplSubAttrs t, a.subKind = .asyncTrait := fun a ha => by
      simpa using (List.mem_filter.mp ha).2
    have hpre : (traitImplSubAttrs t).filterMap Attr.mockKind = [] :=
      List.filterMap_eq_nil_iff.mpr fun a ha => asyncTrait_not_mock a (hsub a ha)
    rw [mockKinds, targetTrait, List.filterMap_append, hpre, List.nil_append]
    exact mockKinds_no_mock (noMockOpts a.opts) rfl rfl (traitImplSubAttrs t) hsub ..

theorem T_C10 (v : Variant) (attr : Toks) (item : Item) (out : Out)
    (h : expand v attr item = .ok out) : P_C10 v attr item out.view = true := by
  by_cases hm : item.inputMode = .singleFn ∨ item.inputMode = .module
  · obtain ⟨a, tg, depMode, im, h1, _, htr, _⟩ := expand_fnmod_ok h hm
    obtain ⟨f, rfl⟩ | ⟨m, rfl⟩ := Item.fnmod_cases hm <;>
      simp [P_C10, Item.mode, effectiveOpts, h1, htr, mockKinds_genTraitDef, expectedMockKinds, userMockKinds, Item.attrs,
        reappliedSubs, Item.inputMode]
  · obtain ⟨t, rfl⟩ | ⟨m, rfl⟩ := Item.not_fnmod_cases hm
    · obtain ⟨a0, h1, _, htr, _⟩ := expandTrait_view h
      simp only [P_C10, Item.mode, effectiveOpts, h1, htr, Bool.and_eq_true, List.all_eq_true, beq_iff_eq]
      exact ⟨by simp [mockKinds_genTraitDef, expectedMockKinds, userMockKinds, Item.attrs, Item.mode, reappliedSubs],
        fun g hg => mockKinds_delegationTraits hg⟩
    · obtain ⟨a, tg, depMode, im, _, _, htr, _⟩ := expandImpl_view h
      simp [P_C10, Item.mode, htr]

/-- `#[entrait_export(Foo, mock_api = M, unimock)] fn foo(d: &impl A)`: one unimock derivation, not test-gated -/
example :
    (match expand .export_ [i "Foo", p ',', i "mock_api", p '=', i "M", p ',', i "unimock"]
        (.fn { sig := { ident := "foo", inputs := [.typed [] (.ident false false "d" none)
                (.ref_ none false (.implTrait [[i "A"]] false))] } }) with
     | .ok out => (traitsOf out.view.items).map mockKinds
     | _ => []) = [[(.unimock, false)]] := by decide +kernel

end Entrait.C10
