import EntraitProofs.C06Sem
import EntraitProofs.C01Sem
/-
  C06, the forwarding clause, *on the observed expansion*.

  `C06Sem.T_C06_iff` reads the bounds of the `Impl<T>` impl; this file reads its methods.  On every view on which
  `P_C06` holds — the model's output by `T_C06`, the real macro's output wherever the driver evaluated `P_C06`
  to 1 — for an entraited trait without a delegation-target trait, every method of `impl Trait for Impl<T>`
    * is named like the trait method it implements,
    * has as body exactly the forwarding expression of the shape `delegate_by` selects (`expectedShape`:
      `Self` ↦ `self.as_ref().m(..)`, `ref` ↦ `self.as_ref().as_ref().m(..)`, `Borrow` ↦ `..borrow().m(..)`),
      calling the provider's method *of the same name*, awaited iff the trait method is async,
    * and forwards its own parameters: with pairwise distinct names, evaluating the forwarded argument list
      with the parameters bound to the caller's values yields exactly those values, in declared order.
-/
namespace Entrait.C06Sem
open Entrait

theorem expectedShape_noTarget (a : TraitAttr) (ca : Bool) (hi : a.implTrait = none) :
    expectedShape a ca = (match a.delegation with | some (.byRef b) => .byRef b | _ => .bySelf) := by
  unfold expectedShape
  rw [hi]
  cases a.delegation with
  | none => rfl
  | some d => cases d <;> rfl

theorem T_C06_fwd_view (attr : Toks) (t : TraitItem) (view : View) (a : TraitAttr) (im : GenImpl)
    (hp : parseTraitAttr attr = .ok a) (hi : a.implTrait = none) (him : mainImpl? view = some im)
    (h : P_C06 attr (.trait t) view = true) :
    ∀ sm ∈ t.fns.zip im.members,
      ∃ attrs g body, sm.2 = .fn attrs g (some body) ∧ g.ident = sm.1.sig.ident ∧
        body = specDelegBody (match a.delegation with | some (.byRef b) => .byRef b | _ => .bySelf)
                 sm.1.sig.ident (paramIdents g.inputs) sm.1.sig.async_ ∧
        (nodup ((paramIdents g.inputs).map unraw) = true → (∀ q ∈ paramIdents g.inputs, q ≠ "self") →
          ∀ (recv : Nat) (vs : List Nat), (paramIdents g.inputs).length = vs.length →
            C01.evalArgs recv ((paramIdents g.inputs).zip vs) (paramIdents g.inputs) = some vs) := by
  intro sm hsm
  obtain ⟨attrs, g, body, hm, hid, hbody⟩ := forwardsAll_inv (P_C06_inv hp hi him h).1 sm hsm
  refine ⟨attrs, g, body, hm, hid, by rw [hbody, expectedShape_noTarget a _ hi], ?_⟩
  intro hnd hself recv vs hl
  exact C01.evalArgs_params recv _ vs hl hnd hself

theorem T_C06_fwd (v : Variant) (attr : Toks) (t : TraitItem) (out : Out) (h : expand v attr (.trait t) = .ok out)
    (a : TraitAttr) (hp : parseTraitAttr attr = .ok a) (hi : a.implTrait = none)
    (im : GenImpl) (him : mainImpl? out.view = some im) :
    ∀ sm ∈ t.fns.zip im.members,
      ∃ attrs g body, sm.2 = .fn attrs g (some body) ∧ g.ident = sm.1.sig.ident ∧
        body = specDelegBody (match a.delegation with | some (.byRef b) => .byRef b | _ => .bySelf)
                 sm.1.sig.ident (paramIdents g.inputs) sm.1.sig.async_ ∧
        (nodup ((paramIdents g.inputs).map unraw) = true → (∀ q ∈ paramIdents g.inputs, q ≠ "self") →
          ∀ (recv : Nat) (vs : List Nat), (paramIdents g.inputs).length = vs.length →
            C01.evalArgs recv ((paramIdents g.inputs).zip vs) (paramIdents g.inputs) = some vs) :=
  T_C06_fwd_view attr t out.view a im hp hi him (C06.T_C06 v attr (.trait t) out h)

end Entrait.C06Sem
