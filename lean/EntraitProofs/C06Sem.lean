import EntraitProofs.C06
/-
  C06 read semantically: for an entraited trait without delegation-target trait, `Impl<T>` implements
  the trait *exactly when* `T` provides it in the selected way (given entrait's fixed `T: Sync + 'static`).

  `satT b`: the application type `T` satisfies the bound `b` (an abstract trait solver).  The where clause of
  the generated impl starts with one predicate on `EntraitT`; `T_C06_iff`: the bounds it carries hold of `T`
  iff `T` satisfies the *provider* bound — `Trait<..>` by default, `AsRef<dyn Trait<..>>` for
  `delegate_by = ref`, `Borrow<dyn Trait<..>>` for `delegate_by = Borrow` — whenever `T` meets the fixed
  requirement: nothing else is demanded of `T`.
-/
namespace Entrait.C06Sem
open Entrait

/-- the bound by which `T` provides the trait, as selected by `delegate_by` -/
def providerOf (a : TraitAttr) (t : TraitItem) : Toks :=
  match a.delegation with
  | some (.byRef b) => (if b then borrowPath else asRefPath) ++ [p '<', i "dyn"] ++ traitWithArgs t ++ [p '>']
  | _ => traitWithArgs t

/-- the bounds of the first where-predicate of the impl (the one on `EntraitT`) -/
def headBounds (im : GenImpl) : List Toks :=
  match im.preds.head? with
  | some (.ty [] _ bs false) => bs
  | _ => []

theorem forwardsAll_inv {a : TraitAttr} {t : TraitItem} {im : GenImpl} (h : forwardsAll a t im = true) :
    ∀ sm ∈ t.fns.zip im.members, ∃ attrs g body, sm.2 = .fn attrs g (some body) ∧ g.ident = sm.1.sig.ident ∧
      body = specDelegBody (expectedShape a t.containsAsync) sm.1.sig.ident (paramIdents g.inputs) sm.1.sig.async_ := by
  intro sm hsm
  have hm := zipAll_forall h sm hsm
  split at hm
  · rename_i attrs g body hsm2
    simp only [sigSameModuloNames, Bool.and_eq_true] at hm
    exact ⟨attrs, g, body, hsm2, (beq_iff_eq.mp hm.1.1.1.1.1.1.1.1.1).symm, beq_iff_eq.mp hm.2⟩
  · cases hm

theorem P_C06_inv {attr : Toks} {t : TraitItem} {view : View} {a : TraitAttr} {im : GenImpl}
    (hp : parseTraitAttr attr = .ok a) (hi : a.implTrait = none) (him : mainImpl? view = some im)
    (h : P_C06 attr (.trait t) view = true) :
    forwardsAll a t im = true ∧
      ∃ extras, headBounds im = providerOf a t :: extras ∧ ∀ e ∈ extras, e ∈ fixedExtras := by
  unfold P_C06 at h
  simp only [hp, him, hi, Option.isSome_none, Bool.false_eq_true, if_false, Bool.and_eq_true] at h
  obtain ⟨⟨_, hfw⟩, h3⟩ := h
  refine ⟨hfw, ?_⟩
  unfold headBounds
  split at h3
  · rename_i bounded first extras hhead
    simp only [Bool.and_eq_true, beq_iff_eq, List.all_eq_true, List.contains_iff_mem] at h3
    refine ⟨extras, ?_, h3.2⟩
    rw [hhead, h3.1.2]
    rfl
  · cases h3

theorem T_C06_iff (satT : Toks → Prop) (attr : Toks) (t : TraitItem) (view : View) (a : TraitAttr) (im : GenImpl)
    (hp : parseTraitAttr attr = .ok a) (hi : a.implTrait = none) (him : mainImpl? view = some im)
    (h : P_C06 attr (.trait t) view = true) (hfixed : ∀ e ∈ fixedExtras, satT e) :
    (∀ b ∈ headBounds im, satT b) ↔ satT (providerOf a t) := by
  obtain ⟨_, extras, hb, hext⟩ := P_C06_inv hp hi him h
  rw [hb]
  constructor
  · intro hall; exact hall _ List.mem_cons_self
  · intro hprov b hbm
    rcases List.mem_cons.mp hbm with rfl | hbm
    · exact hprov
    · exact hfixed b (hext b hbm)

theorem T_C06_sem (satT : Toks → Prop) (v : Variant) (attr : Toks) (t : TraitItem) (out : Out)
    (h : expand v attr (.trait t) = .ok out) (a : TraitAttr) (hp : parseTraitAttr attr = .ok a) (hi : a.implTrait = none)
    (im : GenImpl) (him : mainImpl? out.view = some im) (hfixed : ∀ e ∈ fixedExtras, satT e) :
    (∀ b ∈ headBounds im, satT b) ↔ satT (providerOf a t) :=
  T_C06_iff satT attr t out.view a im hp hi him (C06.T_C06 v attr (.trait t) out h) hfixed

end Entrait.C06Sem
