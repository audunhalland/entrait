import EntraitProofs.Split
import EntraitProofs.Examples
import EntraitProofs.C13
/-
  C08 — module mode: the trait's methods are exactly the module's non-private functions.

  `T_C08`: for an entraited module the generated trait (and the delegating impl) has exactly one
  method per entry the splitter classifies as a function, named like it and in source order, and
  nothing else; the trait is named as requested, has visibility `visFromInside requested`
  (`pub(super)` if none was requested), and the only thing emitted after the module is `vis use m::Trait;`.
  `classify_fn`: an entry of the module body is classified as a function **iff** — after its
  outer attributes — it carries a non-empty visibility qualifier, the tokens that follow look
  like a function header (`peek_fn`), a signature parses there, and the signature is not
  followed by `;`.  Entries are contiguous slices of the *top-level* token trees of the body
  (`splitBody_print`: with a stable oracle their concatenation is the body), so anything inside a delimited group —
  a nested impl / submodule / extern block / macro invocation — is never looked at.
-/
namespace Entrait.C08
open Entrait

theorem methodNames_map {α : Type} {f : α → GenMember} {g : α → String} (h : ∀ a, (f a).sig?.map (·.ident) = some (g a))
    (xs : List α) : methodNames (xs.map f) = xs.map g := by
  rw [methodNames, List.filterMap_map, ← List.filterMap_eq_map]
  exact congrArg (List.filterMap · xs) (funext h)

theorem T_C08 (v : Variant) (attr : Toks) (item : Item) (out : Out)
    (h : expand v attr item = .ok out) : P_C08 attr item none out.view = true := by
  rcases item with f | m | t | m <;> try rfl
  obtain ⟨items, a, tg, depMode, im, _, h1, d, rfl⟩ := expandMod_ok (expandMod_of_expand h).2
  have hn1 : methodNames (genTraitDef (v.apply a.opts) .plain depMode m.attrs a.traitVis a.traitIdent tg {}
      ((Item.mod_ m).traitFns .selfRef (v.apply a.opts)) .module).members = (Item.mod_ m).sourceFns.map (·.sig.ident) := by
    rw [genTraitDef, Item.traitFns, List.map_map]
    exact methodNames_map (g := fun f : FnItem => f.sig.ident) (fun _ => by exact congrArg some (makeTraitFnSig_ident ..)) _
  have hn2 : methodNames im.members = (Item.mod_ m).sourceFns.map (·.sig.ident) := by
    rw [d.members_eq]
    exact methodNames_map (fun _ => rfl) _
  simp only [P_C08, h1, Out.view, Out.inside, Out.after, traitsOf, implsOf, hn1, hn2, beq_self_eq_true, Bool.true_and,
    Bool.and_true, List.length_map]
  simp [genTraitDef, Item.traitFns, traitVisibility, useItem, C13.moduleVis_eq]

theorem classify_fn (o : SigOracle) (ts : Toks) (item : BodyItem) (rest : Toks)
    (h : parseBodyItem false o ts = .ok (item, rest)) :
    ∃ attrs r1 vis r2, parseOuterAttrs ts = .ok (attrs, r1) ∧ parseVis r1 = .ok (vis, r2) ∧
      (item.fn?.isSome = true ↔
        (vis ≠ [] ∧ peekFn r2 = true ∧ ∃ k sig, o.at r2.length = some (k, sig) ∧ (r2.drop k).head? ≠ some (p ';'))) := by
  obtain ⟨attrs, r1, vis, r2, ha, hv, hitem⟩ := parseBodyItem_ok h
  refine ⟨attrs, r1, vis, r2, ha, hv, ?_⟩
  have hcond : ((false || !vis.isEmpty) && peekFn r2) = true ↔ vis ≠ [] ∧ peekFn r2 = true := by simp
  rcases hitem with ⟨hc, k, sig, hk, ⟨hd, rfl⟩ | ⟨hne, body, -, rfl⟩⟩ | ⟨hc, toks, -, rfl⟩
  · refine ⟨nofun, fun ⟨_, _, k', sig', hk', hne⟩ => ?_⟩
    cases hk.symm.trans hk'
    exact absurd (by rw [hd]; rfl) hne
  · exact ⟨fun _ => ⟨(hcond.mp hc).1, (hcond.mp hc).2, k, sig, hk, hne⟩, fun _ => rfl⟩
  · refine ⟨nofun, fun ⟨h1, h2, _⟩ => ?_⟩
    rw [hcond.mpr ⟨h1, h2⟩] at hc
    cases hc

/-- `#[entrait(pub Tr)]` on `Examples.modM` (a `pub fn`, a private fn, a struct) -/
example :
    (match expand .plain [i "pub", i "Tr"] (.mod_ Examples.modM) with
     | .ok out => (traitsOf out.view.inside).map (fun t => methodNames t.members)
     | _ => []) = [(Item.mod_ Examples.modM).sourceFns.map (·.sig.ident)] := by decide +kernel

end Entrait.C08
