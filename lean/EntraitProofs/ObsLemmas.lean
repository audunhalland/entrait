import EntraitModel.Obs
import EntraitProofs.Lists
/-
  The equivalences the correspondence is taken up to (`EntraitModel/Obs.lean`) are applied to the *real* expansion
  only, to bring it to the model's spelling.  These lemmas say that they (all but `canonItem`, which does not look at
  the model's expansion) do nothing to an expansion that already has the model's spelling — on the unchanged tree the
  comparison is the plain one.
-/
namespace Entrait.ObsLemmas
open Entrait Entrait.Obs

theorem mergeToward_self : ∀ ps : List WherePred, mergeToward ps ps = ps
  | [] => rfl
  | .ty l t bs bt :: ms => by
      have h : takeMerged l t bs [] (WherePred.ty l t bs bt :: ms) = some (bs, ms) := by
        simp [takeMerged, sameMultiset_refl]
      simp only [mergeToward, h, mergeToward_self ms]
  | .other ts :: ms => by
      simp only [mergeToward, mergeToward_self ms]

theorem find_self_of_distinct {α : Type} (key : α → Nat × Toks) : ∀ (m : List α), distinctKeys (m.map key) = true →
    ∀ x ∈ m, m.find? (fun r => key r == key x) = some x
  | a :: rest, hd, x, hx => by
      simp only [List.map_cons, distinctKeys, Bool.and_eq_true, Bool.not_eq_true', List.contains_eq_mem,
        decide_eq_false_iff_not] at hd
      rw [List.find?_cons]
      rcases List.mem_cons.mp hx with rfl | h
      · rw [beq_iff_eq.mpr rfl]
      · rw [beq_eq_false_iff_ne.mpr fun (e : key a = key x) => hd.1 (e ▸ List.mem_map_of_mem h)]
        exact find_self_of_distinct key rest hd.2 x h

theorem permuteToward_self (m : List GenItem) : permuteToward m m = m := by
  rw [permuteToward]
  split
  · rename_i h
    simp only [Bool.and_eq_true] at h
    rw [filterMap_congr (find_self_of_distinct itemKey m h.1.2), List.filterMap_some]
  · rfl

theorem alignPred_self (q : WherePred) : alignPred q q = q := by
  cases q with
  | ty l t bs bt => simp [alignPred, sameMultiset_refl]
  | other ts => rfl

theorem alignParam_self (q : GParam) : alignParam q q = q := by
  cases q <;> simp [alignParam, sameMultiset_refl]

theorem alignMember_self (tr : Toks) (g : GenMember) : alignMember tr g g = g := by
  cases g with
  | fn a s b => cases b <;> simp [alignMember]
  | raw ts => rfl

theorem zipAlign_self {α : Type} (f : α → α → α) (hf : ∀ x, f x x = x) : ∀ xs : List α, zipAlign f xs xs = xs
  | [] => rfl
  | x :: xs => by simp [zipAlign, hf, zipAlign_self f hf xs]

theorem alignItem_self (x : GenItem) : alignItem x x = x := by
  cases x with
  | impl im =>
    simp only [alignItem, mergeToward_self, zipAlign_self _ alignParam_self, zipAlign_self _ alignPred_self,
      zipAlign_self _ (alignMember_self im.traitRef)]
  | trait t => rfl
  | raw ts => rfl

/-- `none`: no other name stands at the binder's place, nothing is renamed -/
theorem binderAt_self (n : String) : ∀ ps : List GParam, binderAt n ps ps = none
  | [] => rfl
  | .ty a m bs bt d :: ps => by
      show (if m == n then (if m == n then none else some m) else binderAt n ps ps) = none
      by_cases h : (m == n) = true
      · rw [if_pos h, if_pos h]
      · rw [if_neg h]; exact binderAt_self n ps
  | .lt a m bs bt :: ps => binderAt_self n ps
  | .const_ a m t d :: ps => binderAt_self n ps

theorem argBinderAt_self (n : String) : ∀ xs : List FnArg, argBinderAt n xs xs = none
  | [] => rfl
  | .recv a r m c :: xs => argBinderAt_self n xs
  | .typed a (.ident r m nm sub) ty :: xs => by
      show (if nm == n then (if nm == n then none else some nm) else argBinderAt n xs xs) = none
      by_cases h : (nm == n) = true
      · rw [if_pos h, if_pos h]
      · rw [if_neg h]; exact argBinderAt_self n xs
  | .typed a (.other ts bs) ty :: xs => argBinderAt_self n xs

theorem renameMemberToward_self (g : GenMember) : renameMemberToward g g = g := by
  cases g with
  | fn a s b => simp [renameMemberToward, argBinderAt_self]
  | raw ts => rfl

theorem renameItemToward_self (x : GenItem) : renameItemToward x x = x := by
  cases x with
  | impl im => simp [renameItemToward, renameImplToward, binderAt_self, zipAlign_self _ renameMemberToward_self]
  | trait t => simp [renameItemToward, renameTraitToward, binderAt_self, zipAlign_self _ renameMemberToward_self]
  | raw ts => rfl

/-- `owned = []` is every run on the unchanged tree: the macro adds no inert attribute of its own -/
theorem stripOwned_nil (r : Wire.Real) : stripOwned [] r = r := by
  simp [stripOwned]

theorem stripOwnedToward_nil (mi ma : List GenItem) (r : Wire.Real) : stripOwnedToward [] mi ma r = r := by
  simp [stripOwnedToward]

end Entrait.ObsLemmas
