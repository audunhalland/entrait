import EntraitProofs.C01Sem
import EntraitProofs.C01
/-
  C11 read semantically: *an un-mocked call reaches the real function*.

  `T_C11` pins the arguments of the unimock derivation: one `unmock_with` entry per method.  This file adds
  the step from those tokens to what an un-mocked call does, under unimock's documented contract for
  `unmock_with` entries, which does not need rustc:

    * an entry `path`           — the un-mocked call of method `m(&self, a₁, …, aₙ)` is `path(self, a₁, …, aₙ)`;
    * an entry `path(e₁, …, eₖ)` — the un-mocked call is exactly `path(e₁, …, eₖ)`;
    * an entry `_`              — the method has no un-mocked behaviour.

  For a generated method whose delegating body `T_C01` has pinned, the call unimock makes for the entry the
  macro writes *is the very call the delegating impl makes*: same callee (the source function's name), same
  argument identifiers in the same order — `self` first exactly when the function takes its dependency, no
  `self` for `no_deps`.  A function with a concrete dependency gets `_` (`concrete_no_unmock`): its generated
  trait is a leaf, and there is no `Unimock`-generic function to call.

  That unimock implements this contract is unimock's (E2 samples it: `p_c11_unimock` runs un-mocked calls
  through `Unimock::new_partial` and observes the real function's result).
-/
namespace Entrait.C11Sem
open Entrait

/-- the call unimock makes for an un-mocked invocation of the method with signature `g`, by entry -/
def unmockCall (entry : Toks) (g : Sig) : Option (String × List String) :=
  match entry with
  | [.ident f] => if f == "_" then none else some (f, "self" :: paramIdents g.inputs)
  | [.ident f, .group .paren args] => (parseIdentArgs args).map (fun a => (f, a))
  | _ => none

def bodyCall (m : GenMember) : Option (String × List String) :=
  match m with
  | .fn _ _ (some b) => (parseCall b).map (fun c => (c.callee, c.args))
  | _ => none

theorem concrete_no_unmock (src g : Sig) (hc : src.depIsConcrete = true) :
    unmockCall (depKindEntry false src g) g = none := by
  simp [depKindEntry, hc, unmockCall, i]

/-- per method; `hm` is what `T_C01` gives, `hu` excludes a method named `_`, whose entry would read as "none" -/
theorem T_C11_sem_entry (noDeps : Bool) (src : FnItem) (m : GenMember)
    (hm : methodCallsFn noDeps false src m = true)
    (hu : (m.sig?.map (·.ident)) ≠ some "_")
    (hc : noDeps = true ∨ src.sig.depIsConcrete = false) :
    ∃ g, m.sig? = some g ∧ g.ident = src.sig.ident ∧
      unmockCall (depKindEntry noDeps src.sig g) g = bodyCall m ∧
      bodyCall m = some (src.sig.ident, (if noDeps then [] else ["self"]) ++ paramIdents g.inputs) := by
  obtain ⟨attrs, g, body, c, rfl, hpc, hid, hcallee, _, _, hargs, _⟩ := methodCallsFn_inv hm
  replace hcallee := hcallee.trans hid
  have hne : g.ident ≠ "_" := fun he => hu (by simp [GenMember.sig?, he])
  have hbody : bodyCall (.fn attrs g (some body)) =
      some (src.sig.ident, (if noDeps then [] else ["self"]) ++ paramIdents g.inputs) := by
    simp [bodyCall, hpc, hcallee, hargs]
  refine ⟨g, rfl, hid, ?_, hbody⟩
  rw [hbody, ← hid]
  cases noDeps with
  | true =>
    have := C01.parseIdentArgs_join (paramIdents g.inputs)
    simp only [i] at this
    simp [depKindEntry, unmockCall, i, parens, this]
  | false =>
    have hc' : src.sig.depIsConcrete = false := by simpa using hc
    simp [depKindEntry, hc', unmockCall, i, hne]

/-- **C11, semantically**: in fn and module mode, for every source function that takes an abstract
    dependency (or none at all, under `no_deps`), the un-mocked call of its generated method is the call the
    delegating impl makes: the source function, with the receiver as dependency and the arguments in order -/
theorem T_C11_sem (v : Variant) (attr : Toks) (item : Item) (out : Out)
    (hid : item.identsOk = true) (h : expand v attr item = .ok out)
    (hmode : (∃ f, item = .fn f) ∨ (∃ m, item = .mod_ m))
    (im : GenImpl) (him : mainImpl? out.view = some im) :
    ∀ sm ∈ item.sourceFns.zip im.members,
      (sm.2.sig?.map (·.ident)) ≠ some "_" →
      (optsNoDeps (effectiveOpts v attr item) = true ∨ sm.1.sig.depIsConcrete = false) →
      ∃ g, sm.2.sig? = some g ∧ g.ident = sm.1.sig.ident ∧
        unmockCall (depKindEntry (optsNoDeps (effectiveOpts v attr item)) sm.1.sig g) g = bodyCall sm.2 ∧
        bodyCall sm.2 = some (sm.1.sig.ident,
          (if optsNoDeps (effectiveOpts v attr item) then [] else ["self"]) ++ paramIdents g.inputs) :=
  fun sm hsm => T_C11_sem_entry _ sm.1 sm.2 (C01.P_C01_methods (C01.T_C01 v attr item out hid h) hmode him sm hsm)

/-- the three entry forms, for `fn foo(&self, a: u8)` -/
example :
    let g : Sig := { ident := "foo",
                      inputs := [.recv [] (some none) false none, .typed [] (.ident false false "a" none) (.other [i "u8"])] }
    unmockCall [i "foo"] g = some ("foo", ["self", "a"]) ∧
    unmockCall [i "foo", parens [i "a"]] g = some ("foo", ["a"]) ∧
    unmockCall [i "_"] g = none := by
  decide +kernel

end Entrait.C11Sem
