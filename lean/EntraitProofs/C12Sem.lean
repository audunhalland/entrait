import EntraitProofs.C12
/-
  C12 read semantically: *`Send` by default, opt-out honoured*.

  `T_C12` pins the tokens of an async method's declaration: `fn m(..) -> impl ::core::future::Future<Output = R>
  [+ ::core::marker::Send]`.  This file adds the step from those tokens to the obligation they create, which
  does not need rustc.  Whether the future of an implementing `async fn` *is* `Send` is rustc's inference over
  the body (`futSend`, abstract here).  An implementation of a method declared with return type `ret` is
  accepted iff the declaration does not demand `Send` or the future has it; a caller of the trait method may
  rely on `Send` iff the declaration demands it.

  For every generated trait that re-declares the source methods (on any view on which `P_C12` holds:
  `T_C12_view`), when `async_trait` is not in use, every async source method is declared non-async with a return
  type that demands `Send` **iff** `?Send` was not given, and whose `Output` is the source's return type (`()`
  when omitted).  So under `?Send` every implementation is accepted whatever its future is; by default exactly
  those whose future is `Send`, and callers may rely on it.
-/
namespace Entrait.C12Sem
open Entrait

/-- does a declared return type demand `Send` of the future?  (the bound list of `impl Future<..> + ..` ends in it) -/
def requiresSend (ret : Toks) : Bool := ret.getLast? == some (.ident "Send")

/-- an implementing `async fn` whose future is `Send` iff `futSend` is accepted for the declaration `ret` -/
def implAccepted (ret : Toks) (futSend : Bool) : Bool := !requiresSend ret || futSend

/-- a caller may spawn the returned future onto a multi-threaded executor -/
def callerMayAssumeSend (ret : Toks) : Bool := requiresSend ret

theorem futureWrapper_eq (o : Option Toks) (send : Bool) : futureWrapper o send =
    (i "impl" :: (futurePath ++ [p '<', i "Output", p '='] ++ o.getD [parens []])) ++
      (p '>' :: if send then p '+' :: sendToks else []) := by
  simp [futureWrapper]

theorem requiresSend_wrapper (o : Option Toks) (send : Bool) : requiresSend (futureWrapper o send) = send := by
  rw [requiresSend, futureWrapper_eq, List.getLast?_append]
  cases send <;> rfl

theorem optOut_accepts_everything (o : Option Toks) (futSend : Bool) :
    implAccepted (futureWrapper o false) futSend = true := by
  simp [implAccepted, requiresSend_wrapper]

theorem default_accepts_iff_send (o : Option Toks) (futSend : Bool) :
    implAccepted (futureWrapper o true) futSend = futSend ∧ callerMayAssumeSend (futureWrapper o true) = true := by
  simp [implAccepted, callerMayAssumeSend, requiresSend_wrapper]

/-- the traits left out (`isSelectorLike`, no attribute) are the selector traits, which declare no method -/
theorem T_C12_view (v : Variant) (attr : Toks) (item : Item) (view : View) (h : P_C12 v attr item view = true)
    (o : Opts) (ho : effectiveOpts v attr item = some o) (hat : containsAsyncTrait item.attrs = false) :
    ∀ t ∈ traitsOf view.items, (isSelectorLike t && t.attrs.isEmpty) = false →
      ∀ sm ∈ item.srcSigs.zip (t.members.filter (fun m => m.sig?.isSome)), sm.1.async_ = true →
        ∃ g, sm.2.sig? = some g ∧ g.async_ = false ∧
          g.output = some (futureWrapper sm.1.output o.futureSendValue) ∧
          requiresSend (futureWrapper sm.1.output o.futureSendValue) = o.futureSendValue ∧
          (∀ futSend, implAccepted (futureWrapper sm.1.output o.futureSendValue) futSend
              = (!o.futureSendValue || futSend)) := by
  intro t ht hsel sm hsm hasync
  unfold P_C12 at h
  rw [ho] at h
  simp only [Bool.and_eq_true, List.all_eq_true] at h
  have h1 := h.1 t ht
  rw [hsel, Bool.false_or, Bool.and_eq_true] at h1
  have hp := zipAll_forall h1.1 sm hsm
  unfold asyncDeclOkM at hp
  cases hg : sm.2.sig? with
  | none => simp [hg] at hp
  | some g =>
    simp only [hg, asyncDeclOk, hasync, hat, Bool.and_false, Bool.not_false, Bool.and_true, Bool.and_eq_true,
      beq_iff_eq, if_true] at hp
    refine ⟨g, rfl, hp.1, hp.2, requiresSend_wrapper _ _, ?_⟩
    intro fs
    simp [implAccepted, requiresSend_wrapper]

theorem T_C12_sem (v : Variant) (attr : Toks) (item : Item) (out : Out) (h : expand v attr item = .ok out)
    (o : Opts) (ho : effectiveOpts v attr item = some o) (hat : containsAsyncTrait item.attrs = false) :
    ∀ t ∈ traitsOf out.view.items, (isSelectorLike t && t.attrs.isEmpty) = false →
      ∀ sm ∈ item.srcSigs.zip (t.members.filter (fun m => m.sig?.isSome)), sm.1.async_ = true →
        ∃ g, sm.2.sig? = some g ∧ g.async_ = false ∧
          g.output = some (futureWrapper sm.1.output o.futureSendValue) ∧
          requiresSend (futureWrapper sm.1.output o.futureSendValue) = o.futureSendValue ∧
          (∀ futSend, implAccepted (futureWrapper sm.1.output o.futureSendValue) futSend
              = (!o.futureSendValue || futSend)) :=
  T_C12_view v attr item out.view (C12.T_C12 v attr item out h) o ho hat

/-- with and without `?Send`; an implementation whose future is not `Send` is accepted only with it -/
example : requiresSend (futureWrapper (some [i "u8"]) true) = true ∧ requiresSend (futureWrapper none false) = false ∧
    implAccepted (futureWrapper none false) false = true ∧ implAccepted (futureWrapper none true) false = false := by
  decide +kernel

end Entrait.C12Sem
