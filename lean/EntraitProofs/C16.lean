import EntraitProofs.FnMode
import EntraitProofs.ImplMode
import EntraitProofs.OptParse
/-
  C16 — generated parameter names are usable for every parameter pattern list.

  The core is `fixParams_namesSpec` (EntraitProofs/Params.lean; `paramNamesOk_fixParams` is its reading in the
  predicate's terms): for **every** list of typed parameters and every function name, the names chosen by the
  model of `fn_params.rs::fix_fn_param_idents` are
  plain identifiers, never the function's own name, pairwise distinct whenever the source bindings
  are, and a binding that a pattern provides (a plain / `mut` / `ref` binding, or the single
  lower-case binding of a destructuring pattern) keeps its name unless it is the function's name.
  `T_C16` lifts this to every generated method of every input mode.
-/
namespace Entrait.C16
open Entrait

/-- (`drop 0`: the `skip` of `P_C16`, which is 1 for impl blocks, whose first parameter is the macro's `__impl`) -/
theorem fnMode_namesOk (opts : Opts) (src : Sig) (tf : TraitFn) (sig' : Sig)
    (hs : FnModeSpec opts src tf) (hid : identOk src.ident = true) (hin' : sig'.inputs = tf.sig.inputs) :
    paramNamesOk src.ident (typedArgs (src.userParams opts.noDepsValue))
      { sig' with inputs := (typedArgs sig'.inputs).drop 0 } [] = true := by
  refine paramNamesOk_of_spec (NamesSpec.typedArgs_iff.mpr ?_)
  rw [hin']
  exact hs.names hid

theorem T_C16_fnmod (v : Variant) (attr : Toks) (item : Item) (out : Out)
    (hm : item.inputMode = .singleFn ∨ item.inputMode = .module)
    (hid : item.identsOk = true) (h : expand v attr item = .ok out) : P_C16 v attr item out.view = true := by
  obtain ⟨a, tg, depMode, im, h1, d, htr, him⟩ := expand_fnmod_ok h hm
  have key : ∀ (g : TraitFn → Sig), (∀ tf, (g tf).inputs = tf.sig.inputs) → ∀ f ∈ item.sourceFns,
      paramNamesOk f.sig.ident (typedArgs (f.sig.userParams (v.apply a.opts).noDepsValue))
        { g (item.traitFn .selfRef (v.apply a.opts) f) with
          inputs := (typedArgs (g (item.traitFn .selfRef (v.apply a.opts) f)).inputs).drop 0 } [] = true :=
    fun g hg f hf => fnMode_namesOk (v.apply a.opts) f.sig _ _ (fnModeSpec (d.analyzedFn hf)) (Item.identOk_of_mem hid hf).1
      (by rw [hg, Item.traitFn_sig])
  have h1' := key (fun tf => makeTraitFnSig tf.sig item.attrs (v.apply a.opts))
    (fun tf => makeTraitFnSig_inputs ..)
  have h2' := key (fun tf => tf.sig) fun _ => rfl
  obtain ⟨f, rfl⟩ | ⟨m, rfl⟩ := Item.fnmod_cases hm <;>
  · simp only [P_C16, mainImpl?, mainTrait?, htr, him, List.getLast?_singleton, List.head?_cons, effectiveOpts, h1,
      optsNoDeps, Item.mode, d.impl, genTraitDef, Item.traitFns, List.map_map, zipAll_map_self, Bool.and_eq_true,
      List.all_eq_true]
    exact ⟨h1', h2'⟩

theorem traitMode_namesOk (f : TraitFnItem) (hid : identOk f.sig.ident = true) :
    paramNamesOk f.sig.ident (typedArgs f.sig.inputs)
      { f.sig with inputs := fixParams f.sig.ident f.sig.inputs } [] = true :=
  paramNamesOk_of_spec (fixParams_namesSpec _ (identOk_notRaw hid) _)

theorem T_C16_trait (v : Variant) (attr : Toks) (t : TraitItem) (out : Out)
    (hid : (Item.trait t).identsOk = true) (h : expand v attr (.trait t) = .ok out) :
    P_C16 v attr (.trait t) out.view = true := by
  obtain ⟨a0, _, _, _, him⟩ := expandTrait_view h
  simp only [P_C16, mainImpl?, him, List.getLast?_singleton, traitImplBlock, List.map_map, zipAll_map_self,
    List.all_eq_true]
  intro f hf
  obtain ⟨mm, hmm, hsome⟩ := List.mem_filterMap.mp hf
  have := List.all_eq_true.mp hid mm hmm
  cases mm <;> cases hsome
  exact traitMode_namesOk f this

theorem paramIdents_cons_plain (a : List Attr) (n : String) (t : Ty) (xs : List FnArg) :
    paramIdents (.typed a (.ident false false n none) t :: xs) = n :: paramIdents xs := rfl

theorem T_C16_impl (v : Variant) (attr : Toks) (m : ImplItemIn) (out : Out)
    (hid : (Item.impl m).identsOk = true) (h : expand v attr (.impl m) = .ok out) :
    P_C16 v attr (.impl m) out.view = true := by
  obtain ⟨a, tg, depMode, im, h1, d, _, him⟩ := expandImpl_view h
  have hnd : (v.apply a.opts).noDepsValue = false := impl_noDepsValue h1
  simp only [P_C16, mainImpl?, him, List.getLast?_singleton, effectiveOpts, h1, optsNoDeps, Item.mode, hnd, Bool.true_and,
    d.members_eq, zipAll_map_self, List.all_eq_true, GenMember.sig?]
  intro f hf
  have hidf := Item.identOk_of_mem hid hf
  have hs := implModeSpec hnd (d.analyzedFn hf)
  obtain ⟨lt, rest, _, hr, hn⟩ := hs.impl_first (hidf.2 rfl)
  have hn := NamesSpec.typedArgs_iff.mpr (hn hidf.1)
  rw [hr] at hn
  simp only [hr, Sig.userParams, Bool.false_eq_true, if_false]
  -- `__impl` is the macro's own first parameter: the names the property speaks of are the tail
  exact paramNamesOk_of_spec (unraw_impl ▸ hn.tail (providedName_implReceiver lt))

theorem T_C16 (v : Variant) (attr : Toks) (item : Item) (out : Out)
    (hid : item.identsOk = true) (h : expand v attr item = .ok out) :
    P_C16 v attr item out.view = true := by
  cases item with
  | fn f => exact T_C16_fnmod v attr _ out (.inl rfl) hid h
  | mod_ m => exact T_C16_fnmod v attr _ out (.inr rfl) hid h
  | trait t => exact T_C16_trait v attr t out hid h
  | impl m => exact T_C16_impl v attr m out hid h

/-- the `HashSet` of the implementation is only asked for membership: the model's set is a list,
    and replacing it by any list with the same members gives the same names -/
theorem genIdent_set_irrelevant (index : Nat) (t1 t2 : List String) (hm : ∀ x, x ∈ t1 ↔ x ∈ t2) (fuel n : Nat) :
    genIdent index t1 fuel n = genIdent index t2 fuel n := by
  induction fuel generalizing n with
  | zero => rfl
  | succ k ih =>
    simp [genIdent, ih, hm]

/-- `fn foo(deps, foo, foo_, N(foo__), _, mut a)`, the parameters after `deps` -/
example :
    paramIdents (fixParams "foo"
      [.typed [] (.ident false false "foo" none) (.other [i "u8"]),
       .typed [] (.ident false false "foo_" none) (.other [i "u8"]),
       .typed [] (.other [i "N", parens [i "foo__"]] ["foo__"]) (.other [i "N"]),
       .typed [] (.other [i "_"] []) (.other [i "u8"]),
       .typed [] (.ident false true "a" none) (.other [i "u8"])]) = ["foo___", "foo_", "foo__", "arg3", "a"] := by
  decide +kernel

end Entrait.C16
