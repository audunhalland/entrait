import EntraitProofs.C04
/-
  C04 read semantically: "implemented iff the deps are satisfied".

  The trait solver is abstracted as two relations: `satT b` — the application type `T` satisfies
  the bound `b`; `satSelf b` — the type the impl is for (`Impl<T>`, or `T` itself when nothing is
  mocked) satisfies `b`.  An impl *applies* to the application iff every bound its header writes on
  its own type parameter and on the dependency predicate holds.  `T_C04_iff`: for every header that
  satisfies `fnImplHeaderOk` — which `T_C04` shows of every expansion — the impl applies iff the
  application satisfies exactly the bounds declared on the dependency parameters of the source
  functions, plus the fixed `Sync [+ Send] + 'static`.  Nothing declared is dropped, nothing else is
  required (user where-predicates about other parameters aside: they do not speak about the
  application type).
-/
namespace Entrait.C04Sem
open Entrait

theorem perm_of_sameMultiset : ∀ (a b : List Toks), sameMultiset a b = true → a.Perm b
  | [], b, h => by
      rw [sameMultiset, List.all_nil, Bool.and_true, beq_iff_eq] at h
      rw [List.eq_nil_of_length_eq_zero h.symm]
  | x :: a, b, h => by
      simp only [sameMultiset, Bool.and_eq_true, beq_iff_eq, List.all_eq_true] at h
      obtain ⟨hlen, hcnt⟩ := h
      have hxb : x ∈ b := List.count_pos_iff.mp (by
        rw [← hcnt x List.mem_cons_self, List.count_cons_self]; exact Nat.succ_pos _)
      refine ((perm_of_sameMultiset a (b.erase x) ?_).cons x).trans (List.perm_cons_erase hxb).symm
      simp only [sameMultiset, Bool.and_eq_true, beq_iff_eq, List.all_eq_true]
      refine ⟨by rw [List.length_erase_of_mem hxb, ← hlen]; rfl, fun y hy => ?_⟩
      -- consing `x` adds to the count of `y` what erasing `x` takes away
      rw [List.count_erase, ← hcnt y (List.mem_cons_of_mem _ hy), List.count_cons, Nat.add_sub_cancel]

/-- the bounds the impl header writes on the macro's own type parameter -/
def tBounds (im : GenImpl) : List Toks :=
  match macroParam im.params with
  | some (.ty _ _ bs _ _) => bs
  | _ => []

/-- the bounds the impl header writes on the dependency predicate (`Self: ..`), if it has one -/
def selfBounds (im : GenImpl) : List Toks :=
  match im.preds with
  | .ty [] bt bs false :: _ => if bt == selfTy_ then bs else []
  | _ => []

/-- the impl applies to an application type: the solver grants every bound the header writes about it -/
def Applies (satT satSelf : Toks → Prop) (im : GenImpl) : Prop :=
  (∀ b ∈ tBounds im, satT b) ∧ (∀ b ∈ selfBounds im, satSelf b)

/-- entrait's fixed requirement -/
def fixedBounds (byValue : Bool) : List Toks := [syncToks] ++ (if byValue then [sendToks] else []) ++ [staticToks]

theorem tBounds_perm {byValue : Bool} {im : GenImpl} (h : implTParamOk byValue im.params = true) :
    (tBounds im).Perm (fixedBounds byValue) := by
  unfold implTParamOk at h
  unfold tBounds
  split at h
  · rename_i bs hmp
    rw [hmp]
    exact perm_of_sameMultiset _ _ h
  · cases h

/-- when nothing is declared there is no `Self:` predicate: it could only be one the user wrote, which `hself` excludes -/
theorem selfBounds_perm {declared : List Toks} {userPreds : List WherePred} {im : GenImpl}
    (h : wherePredsOk selfTy_ declared userPreds im.preds = true) (hself : ∀ q ∈ userPreds, isSelfPred q = false) :
    (selfBounds im).Perm declared := by
  unfold wherePredsOk at h
  unfold selfBounds
  split at h
  · rename_i hemp
    rw [List.isEmpty_iff.mp hemp]
    split
    · rename_i bt bs rest hp
      split
      · rename_i hbt
        rw [hp, List.all_cons, Bool.and_eq_true, List.contains_iff_mem] at h
        have := hself _ h.1
        rw [beq_iff_eq.mp hbt] at this
        simp [isSelfPred, selfTy_] at this
      · exact .nil
    · exact .nil
  · split at h
    · rename_i bt bs rest hp
      simp only [Bool.and_eq_true, beq_iff_eq] at h
      rw [hp]
      simp only [h.1.1, beq_self_eq_true, if_true]
      exact perm_of_sameMultiset _ _ h.1.2
    · cases h

/-- **implemented iff the deps are satisfied**: a header that passes `fnImplHeaderOk` applies to an
    application exactly when the application meets the fixed thread-safety requirement and every
    bound declared on the dependency parameter by any of the source functions -/
theorem T_C04_iff (satT satSelf : Toks → Prop) (o : Opts) (srcs : List Sig) (im : GenImpl)
    (hnd : o.noDepsValue = false) (hnc : srcs.any Sig.depIsConcrete = false)
    (hself : ∀ q ∈ srcs.flatMap (·.generics.preds), isSelfPred q = false)   -- free functions cannot say `Self`
    (h : fnImplHeaderOk o srcs im = true) :
    Applies satT satSelf im ↔
      (∀ b ∈ fixedBounds (srcs.any Sig.depByValue), satT b) ∧
      (∀ b ∈ srcs.flatMap Sig.declaredDepBounds, satSelf b) := by
  unfold fnImplHeaderOk at h
  simp only [hnd, hnc, Bool.false_eq_true, if_false, Bool.and_eq_true] at h
  have hT := tBounds_perm h.1.1
  have hS := selfBounds_perm h.2 hself
  unfold Applies
  exact and_congr ⟨fun H b hb => H b (hT.mem_iff.mpr hb), fun H b hb => H b (hT.mem_iff.mp hb)⟩
    ⟨fun H b hb => H b (hS.mem_iff.mpr hb), fun H b hb => H b (hS.mem_iff.mp hb)⟩

theorem T_C04_sem (satT satSelf : Toks → Prop) (v : Variant) (attr : Toks) (item : Item) (out : Out)
    (h : expand v attr item = .ok out) (hmode : item.mode = .fn ∨ item.mode = .mod_)
    (o : Opts) (ho : effectiveOpts v attr item = some o) (im : GenImpl) (him : mainImpl? out.view = some im)
    (hnd : o.noDepsValue = false) (hnc : (item.sourceFns.map (·.sig)).any Sig.depIsConcrete = false)
    (hself : ∀ q ∈ (item.sourceFns.map (·.sig)).flatMap (·.generics.preds), isSelfPred q = false) :
    Applies satT satSelf im ↔
      (∀ b ∈ fixedBounds ((item.sourceFns.map (·.sig)).any Sig.depByValue), satT b) ∧
      (∀ b ∈ (item.sourceFns.map (·.sig)).flatMap Sig.declaredDepBounds, satSelf b) := by
  have hp := C04.T_C04 v attr item out h
  have hhdr : fnImplHeaderOk o (item.sourceFns.map (·.sig)) im = true := by
    cases item with
    | fn f => simpa [P_C04, ho, him] using hp
    | mod_ m => simpa [P_C04, ho, him] using hp
    | trait t => rcases hmode with hm | hm <;> cases hm
    | impl m => rcases hmode with hm | hm <;> cases hm
  exact T_C04_iff satT satSelf o _ im hnd hnc hself hhdr

end Entrait.C04Sem
