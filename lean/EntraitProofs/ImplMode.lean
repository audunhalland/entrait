import EntraitProofs.Anatomy
/-
  What the generated method signature of an impl-block input looks like
  (receiver kinds `staticImpl` / `dynamicImpl`).
-/
namespace Entrait

/-- the method generated for one function of an impl block -/
structure ImplModeSpec (dyn : Bool) (sig : Sig) (tf : TraitFn) : Prop where
  ident : tf.sig.ident = sig.ident
  async_ : tf.sig.async_ = sig.async_
  origAsync : tf.originallyAsync = sig.async_
  output : tf.sig.output = sig.output
  attrs : tf.attrs = []
  deps : tf.deps ≠ .noDeps
  /-- `__impl` (after `&self` for dynamic dispatch), then the renamed user parameters -/
  typed : typedArgs tf.sig.inputs =
    fixParams sig.ident (implRecvOf dyn sig :: (typedArgs (sig.inputs.drop 1)).map FnArg.stripAttrs)
  head : (dyn = false ∧ tf.sig.inputs.head? = (fixParams sig.ident (implRecvOf false sig :: (sig.inputs.drop 1).map FnArg.stripAttrs)).head?) ∨
         (dyn = true ∧ tf.sig.inputs.head? = expectedReceiver false sig)

theorem depRefLifetime_eq {sig : Sig} {r : Option (Option String)}
    (h : expectedReceiver false sig = some (.recv [] r false none)) : sig.depRefLifetime = r.join := by
  rcases hin : sig.inputs with _ | ⟨_ | ⟨a, pt, ty⟩, rest⟩ <;> simp only [expectedReceiver, hin] at h <;> try cases h
  cases ty <;> cases h <;> simp [Sig.depRefLifetime, hin]

theorem implRecvOf_dynamic (sig : Sig) : implRecvOf true sig = implReceiverWith none := rfl

theorem typedArgs_cons_implRecv (lt : Option String) (xs : List FnArg) :
    typedArgs (implReceiverWith lt :: xs) = implReceiverWith lt :: typedArgs xs := rfl

theorem implModeSpec {dyn : Bool} {opts : Opts} {sig : Sig} {tg tg' : TraitGenerics} {tf : TraitFn}
    (hn : opts.noDepsValue = false)
    (h : analyzeFn (if dyn then .dynamicImpl else .staticImpl) opts sig tg = .ok (tf, tg')) :
    ImplModeSpec dyn sig tf := by
  obtain ⟨deps, r, tr, hr, hd, rfl⟩ := analyzeFn_closed h
  rw [hn] at hr hd ⊢
  have hne : deps ≠ .noDeps := fun e => Bool.false_ne_true (hd.mp e)
  have hi : implRecvOf false sig = implReceiverWith r.join := congrArg implReceiverWith (depRefLifetime_eq hr)
  -- stated on the argument of `fixParams`, and the projections reduced by `dsimp only` first: unifying through
  -- `fixParams` unfolds its loop down to the comparison with the literal `"__impl"`
  have ht {A B : List FnArg} (e : typedArgs A = B) : typedArgs (fixParams sig.ident A) = fixParams sig.ident B :=
    (typedArgs_fixParams ..).trans (congrArg _ e)
  cases dyn
  · refine ⟨rfl, rfl, rfl, rfl, rfl, hne, ?_, Or.inl ⟨rfl, ?_⟩⟩ <;> rw [hi] <;> dsimp only
    · exact ht (by rw [← typedArgs_map_strip]; rfl)
    · rfl
  · refine ⟨rfl, rfl, rfl, rfl, rfl, hne, ?_, Or.inr ⟨rfl, ?_⟩⟩ <;> dsimp only
    · exact ht (by rw [← typedArgs_map_strip]; rfl)
    · exact hr ▸ congrArg List.head? (fixParams_cons_recv ..)

theorem implRecvOf_eq (dyn : Bool) (sig : Sig) : ∃ lt, implRecvOf dyn sig = implReceiverWith lt := by
  unfold implRecvOf; split <;> exact ⟨_, rfl⟩

/-- `__impl: &[lt] Impl<EntraitT>` keeps its name and place, and counts as the first source parameter -/
theorem ImplModeSpec.impl_first {dyn : Bool} {sig : Sig} {tf : TraitFn} (hs : ImplModeSpec dyn sig tf)
    (hne : unraw sig.ident ≠ "__impl") :
    ∃ lt rest, implRecvOf dyn sig = implReceiverWith lt ∧ typedArgs tf.sig.inputs = implReceiverWith lt :: rest ∧
      (identOk sig.ident = true →
        NamesSpec sig.ident [] (implReceiverWith lt :: typedArgs (sig.inputs.drop 1)) tf.sig.inputs) := by
  obtain ⟨lt, hlt⟩ := implRecvOf_eq dyn sig
  have h := hs.typed
  rw [hlt] at h
  obtain ⟨rest, hr⟩ := fixParams_impl sig.ident hne lt ((typedArgs (sig.inputs.drop 1)).map FnArg.stripAttrs)
  exact ⟨lt, rest, hlt, h.trans hr, fun hid => namesSpec_of_typed hid (L := implReceiverWith lt :: sig.inputs.drop 1) h⟩

end Entrait
