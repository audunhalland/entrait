import EntraitProofs.Anatomy
import EntraitProofs.Split
import EntraitProofs.Examples
/-
  C02 — append-only: the annotated fn / mod / impl items are emitted unchanged.

  Statements are about the *token stream* the model returns (`Out.render`):
  * fn: the input item's tokens are a prefix, generated items follow;
  * mod: the header, then one brace group holding the input body followed by generated items,
    then generated items;
  * impl block: the inherent block `impl Type { <input body> }` (attributes other than
    async_trait and `unsafe` carried), then generated items.
  For mod / impl the body is re-assembled from the split items, which is the identity provided
  the signature oracle is stable (`OracleOk`: syn's printer is the identity on the signatures it
  parsed; decided per case by the driver as `synStable`).  Function bodies and unrecognised
  items are arbitrary token lists.
-/
namespace Entrait.C02
open Entrait

theorem T_C02_fn (v : Variant) (attr : Toks) (f : FnItem) (out : Out)
    (h : expand v attr (.fn f) = .ok out) :
    out.render = (Item.fn f).print ++ printGen out.after := by
  obtain ⟨a, tg, depMode, im, _, _, rfl⟩ := expandFn_ok h
  rfl

theorem T_C02_mod (v : Variant) (attr : Toks) (m : ModItemIn) (out : Out)
    (hst : OracleOk m.oracle m.body) (h : expand v attr (.mod_ m) = .ok out) :
    out.render = printAttrs m.attrs ++ m.vis ++ [i "mod", i m.ident, braces (m.body ++ printGen out.inside)] ++ printGen out.after ∧
    (Item.mod_ m).print = printAttrs m.attrs ++ m.vis ++ [i "mod", i m.ident, braces m.body] := by
  obtain ⟨hu, h⟩ := expandMod_of_expand h
  obtain ⟨items, a, tg, depMode, im, hsplit, _, _, rfl⟩ := expandMod_ok h
  constructor
  · simp only [Out.render, Out.inside, Out.after, splitBody_whole hst hsplit]
  · simp [Item.print, ModItemIn.print, hu]

theorem implOut_inherent {v : Variant} {attr : Toks} {m : ImplItemIn} {out : Out}
    (hst : OracleOk m.oracle m.body) (h : expand v attr (.impl m) = .ok out) :
    ∃ gen, out = .implOut (expectedInherent m) gen := by
  obtain ⟨items, a, tg, depMode, im, hsplit, _, _, rfl⟩ := expandImpl_ok h
  exact ⟨_, by rw [expectedInherent, ← splitBody_whole hst hsplit]⟩

theorem T_C02_impl (v : Variant) (attr : Toks) (m : ImplItemIn) (out : Out)
    (hst : OracleOk m.oracle m.body) (h : expand v attr (.impl m) = .ok out) :
    out.render = expectedInherent m ++ printGen out.after := by
  obtain ⟨gen, rfl⟩ := implOut_inherent hst h
  rfl

/-- the predicate the driver evaluates.  For fn / mod it is `origOk`, true of the model's view by construction (what is proved
    is `T_C02_fn`, `T_C02_mod`); on the real output it is the harness's prefix check -/
theorem T_C02 (v : Variant) (attr : Toks) (item : Item) (input : Toks) (out : Out)
    (hst : synStable item input = true) (h : expand v attr item = .ok out) :
    P_C02 item out.view = true := by
  cases item with
  | fn _ | mod_ _ | trait _ => rfl
  | impl m =>
    have hok : OracleOk m.oracle m.body := by
      simp only [synStable, Bool.and_eq_true] at hst
      exact oracleStable_iff.mp hst.2
    obtain ⟨gen, rfl⟩ := implOut_inherent hok h
    exact decide_eq_true rfl

theorem no_fuel_exhaustion (m : ModItemIn) (hst : OracleOk m.oracle m.body) :
    splitBody false m.oracle m.body.length m.body ≠ .error (.diag "model: out of fuel") :=
  splitBody_fuel false m.oracle m.body hst m.body.length m.body ⟨[], rfl⟩ (Nat.le_refl _)

example : oracleStable Examples.modM.oracle Examples.modM.body = true := by decide +kernel

end Entrait.C02
