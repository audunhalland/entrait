import EntraitProofs.C10
import EntraitProofs.C10View
/-
  C10 read semantically: what a build *contains*.  A mock derivation wrapped in `cfg_attr(test, ..)` is
  active only in a test build.  `T_C10_sem`: for a non-exporting invocation (and no mock derivation written
  by the user below entrait), no generated trait carries an active mock derivation in a non-test build;
  in a test build the main trait carries exactly the enabled ones.  An exporting invocation carries the
  enabled ones in every build.
-/
namespace Entrait.C10Sem
open Entrait

theorem T_C10_sem (v : Variant) (attr : Toks) (item : Item) (out : Out) (h : expand v attr item = .ok out)
    (o : Opts) (ho : effectiveOpts v attr item = some o) (huser : userMockKinds item = [])
    (t : GenTrait) (rest : List GenTrait) (ht : traitsOf out.view.items = t :: rest) (hmode : item.mode ≠ .impl) :
    (o.exportValue = false → ∀ g ∈ t :: rest, (mockKinds g).filter (activeIn false) = []) ∧
    ((mockKinds t).filter (activeIn true) = expectedMockKinds item.mode o) ∧
    (o.exportValue = true → ∀ test, (mockKinds t).filter (activeIn test) = expectedMockKinds item.mode o) :=
  T_C10_view v attr item out.view (C10.T_C10 v attr item out h) o ho huser t rest ht hmode

end Entrait.C10Sem
