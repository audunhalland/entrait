import EntraitModel.Props
/-
  Leaf positions.  `At ts off node`: the token list `node` occupies the leaves
  `[off, off + flatLen node)` of the flattened `ts`.  The offset calculators of
  `EntraitModel/Locus.lean` (`Sig.identOff`, `Sig.arg0Off`, `Sig.depTypeAt`, `sigBases`, …) are
  proved to point at what they are named after, so that a `Locus` is a statement about tokens of
  the input and not just a number the model and the harness happen to agree on.
-/
namespace Entrait

theorem flattenList_append : ∀ (a b : Toks), TT.flattenList (a ++ b) = TT.flattenList a ++ TT.flattenList b
  | [], b => rfl
  | t :: a, b => by simp only [List.cons_append, TT.flattenList, flattenList_append a b, List.append_assoc]

@[simp] theorem flatLen_nil : flatLen [] = 0 := rfl

@[simp] theorem flatLen_append (a b : Toks) : flatLen (a ++ b) = flatLen a + flatLen b := by
  simp only [flatLen, flattenList_append, List.length_append]

theorem flatLen_cons (t : TT) (ts : Toks) : flatLen (t :: ts) = (TT.flatten t).length + flatLen ts := by
  simp only [flatLen, TT.flattenList, List.length_append]

@[simp] theorem flatLen_cons_i (s : String) (ts : Toks) : flatLen (i s :: ts) = 1 + flatLen ts := flatLen_cons ..
@[simp] theorem flatLen_cons_p (c : Char) (ts : Toks) : flatLen (p c :: ts) = 1 + flatLen ts := flatLen_cons ..

def At (ts : Toks) (off : Nat) (node : Toks) : Prop :=
  ∃ pre post : List Leaf, TT.flattenList ts = pre ++ TT.flattenList node ++ post ∧ pre.length = off

theorem At.of_eq {ts node : Toks} {off off' : Nat} (h : At ts off node) (e : off = off') : At ts off' node := e ▸ h

theorem At.mid (a node b : Toks) : At (a ++ node ++ b) (flatLen a) node :=
  ⟨TT.flattenList a, TT.flattenList b, by rw [flattenList_append, flattenList_append], rfl⟩

theorem At.trans {ts mid node : Toks} {k o : Nat} (h1 : At ts k mid) (h2 : At mid o node) : At ts (k + o) node := by
  obtain ⟨pre, post, e, rfl⟩ := h1
  obtain ⟨pre2, post2, e2, rfl⟩ := h2
  exact ⟨pre ++ pre2, post2 ++ post, by simp only [e, e2, List.append_assoc], List.length_append⟩

theorem At.group {inner node : Toks} {off : Nat} (d : Delim) (h : At inner off node) :
    At [.group d inner] (1 + off) node :=
  At.trans ⟨[.open_ d], [.close d], by simp [TT.flattenList, TT.flatten], rfl⟩ h

theorem At.self (node : Toks) : At node 0 node := by simpa using At.mid [] node []

theorem At.append_left {b node : Toks} {off : Nat} (a : Toks) (h : At b off node) : At (a ++ b) (flatLen a + off) node := by
  simpa using (At.mid a b []).trans h

theorem At.append_right {a node : Toks} {off : Nat} (b : Toks) (h : At a off node) : At (a ++ b) off node := by
  simpa using (At.mid [] a b).trans h

theorem At.in_group {inner node : Toks} {k : Nat} (head : Toks) (d : Delim) (h : At inner k node) :
    At (head ++ [.group d inner]) (flatLen head + 1 + k) node :=
  ((h.group d).append_left head).of_eq (Nat.add_assoc ..).symm

/-- the meaning of a locus: slicing the flattened input at it gives exactly the node's leaves -/
theorem At.slice {ts node : Toks} {off : Nat} (h : At ts off node) :
    ((TT.flattenList ts).drop off).take (flatLen node) = TT.flattenList node := by
  obtain ⟨pre, post, e, hl⟩ := h
  subst hl
  rw [e, List.append_assoc, List.drop_left, flatLen, List.take_left]

def Sig.argsToks (s : Sig) : Toks :=
  commaSep (s.inputs.map FnArg.print) s.itrail ++
    (match s.variadic with
     | some v => (if s.inputs.isEmpty || s.itrail then [] else [p ',']) ++ v
     | none => [])

def Sig.tailToks (s : Sig) : Toks :=
  (match s.output with | some t => arrow ++ t | none => []) ++ s.generics.printWhere

theorem Sig.print_split (s : Sig) :
    s.print = (s.headToks ++ [i s.ident] ++ s.generics.printParams) ++ [parens s.argsToks] ++ s.tailToks := by
  simp only [Sig.print, Sig.headToks, Sig.argsToks, Sig.tailToks, List.append_assoc, List.cons_append, List.nil_append]
  rfl

theorem Sig.ident_at (s : Sig) : At s.print s.identOff [i s.ident] := by
  rw [Sig.print_split]
  exact ((At.mid s.headToks [i s.ident] _).append_right _).append_right _

theorem joinSep_cons (sep x : Toks) (xs : List Toks) : ∃ more, joinSep sep (x :: xs) = x ++ more := by
  cases xs with
  | nil => exact ⟨[], by simp [joinSep]⟩
  | cons y ys => exact ⟨sep ++ joinSep sep (y :: ys), by simp [joinSep]⟩

theorem Sig.arg0_at (s : Sig) (a : FnArg) (rest : List FnArg) (h : s.inputs = a :: rest) :
    At s.print s.arg0Off a.print := by
  obtain ⟨more, hm⟩ := joinSep_cons [p ','] a.print (rest.map FnArg.print)
  obtain ⟨more', hm'⟩ : ∃ more', s.argsToks = a.print ++ more' := by
    simp only [Sig.argsToks, commaSep, h, List.map_cons, hm, List.append_assoc]
    exact ⟨_, rfl⟩
  rw [Sig.print_split, hm']
  exact (((At.mid [] a.print _).group .paren).append_left _).append_right _ |>.of_eq (by simp [Sig.arg0Off])

theorem Ty.core_at : ∀ ty : Ty, At ty.print ty.coreOff ty.core.print
  | .ref_ lt m e =>
      ((Ty.core_at e).append_left _).append_left [p '&'] |>.of_eq (by
        rw [flatLen_append]
        cases lt <;> cases m <;>
          simp only [Ty.coreOff, flatLen_nil, flatLen_cons_i, flatLen_cons_p, if_true, Bool.false_eq_true, if_false] <;> omega)
  | .paren e => (Ty.core_at e).group .paren
  | .implTrait .. | .path .. | .other _ => At.self _

/-- `Sig.depTypeAt` points at the dependency type proper (inside any `&`, `&mut`, parentheses) -/
theorem Sig.depType_at {s : Sig} {o n : Nat} (h : s.depTypeAt = some (o, n)) :
    ∃ attrs pat ty rest, s.inputs = .typed attrs pat ty :: rest ∧ At s.print o ty.core.print ∧ n = flatLen ty.core.print := by
  unfold Sig.depTypeAt at h
  split at h
  · rename_i attrs pat ty rest hi
    cases h
    exact ⟨attrs, pat, ty, rest, hi,
      ((Sig.arg0_at s _ rest hi).trans ((Ty.core_at ty).append_left _)).of_eq (Nat.add_assoc ..).symm, rfl⟩
  · cases h

theorem sigBases_slice {items : List BodyItem} {off b : Nat} {s : Sig} (h : (b, s) ∈ sigBases items off) :
    ∃ k, b = off + k ∧ At (items.flatMap BodyItem.print) k s.print ∧ ∃ f ∈ items.filterMap BodyItem.fn?, f.sig = s := by
  fun_induction sigBases items off with
  | case1 => cases h
  | case2 f rest off ih =>
    rcases List.mem_cons.mp h with h | h
    · cases h
      exact ⟨_, rfl, (At.mid _ f.sig.print f.body).append_right _, f, List.mem_cons_self, rfl⟩
    · obtain ⟨k, rfl, hat, g, hg, hs⟩ := ih h
      exact ⟨_, Nat.add_assoc .., hat.append_left _, g, List.mem_cons_of_mem _ hg, hs⟩
  | case3 it rest off hnot ih =>
    obtain ⟨k, rfl, hat, g, hg, hs⟩ := ih h
    refine ⟨_, Nat.add_assoc .., hat.append_left _, g, ?_, hs⟩
    cases it with
    | pubFn f => exact absurd rfl (hnot f)
    | unknown => exact hg

theorem sigBases_sigs : ∀ (items : List BodyItem) (off : Nat),
    (sigBases items off).map (·.2) = (items.filterMap BodyItem.fn?).map (·.sig)
  | [], _ => rfl
  | .pubFn f :: rest, off => by simp [sigBases, BodyItem.fn?, sigBases_sigs rest]
  | .unknown .. :: rest, off => by simp [sigBases, BodyItem.fn?, List.filterMap_cons, sigBases_sigs rest]

theorem otherMemberLoci_slice {ms : List TraitMember} {off : Nat} {l : Locus} (h : l ∈ otherMemberLoci ms off) :
    ∃ k ts, l = .item (off + k) (flatLen ts) ∧ TraitMember.other ts ∈ ms ∧ At (ms.flatMap TraitMember.print) k ts := by
  fun_induction otherMemberLoci ms off with
  | case1 => cases h
  | case2 ts rest off ih =>
    rcases List.mem_cons.mp h with rfl | h
    · exact ⟨0, ts, rfl, List.mem_cons_self, (At.self ts).append_right _⟩
    · obtain ⟨k, ts', rfl, hm, hat⟩ := ih h
      exact ⟨_, ts', by rw [Nat.add_assoc], List.mem_cons_of_mem _ hm, hat.append_left ts⟩
  | case3 m rest off hnot ih =>
    obtain ⟨k, ts', rfl, hm, hat⟩ := ih h
    exact ⟨_, ts', by rw [Nat.add_assoc], List.mem_cons_of_mem _ hm, hat.append_left _⟩

theorem core_eq_stripRefs : ∀ ty : Ty, ty.core = ty.stripRefs
  | .ref_ _ _ e => by simp [Ty.core, Ty.stripRefs, core_eq_stripRefs e]
  | .paren e => by simp [Ty.core, Ty.stripRefs, core_eq_stripRefs e]
  | .implTrait .. => rfl
  | .path .. => rfl
  | .other .. => rfl

theorem depsErrorAt_none_iff (s : Sig) : depsError s = none ↔ s.depsErrorAt = none := by
  unfold depsError Sig.depsErrorAt
  cases hi : s.inputs with
  | nil => simp
  | cons x rest =>
    cases x with
    | recv => simp
    | typed a pt ty =>
      simp only [core_eq_stripRefs]
      cases hty : ty.stripRefs with
      | path q l n f ts => cases q <;> cases l <;> simp [tyMisuse, Sig.depTypeAt, hi]
      | _ => simp [tyMisuse]

end Entrait
