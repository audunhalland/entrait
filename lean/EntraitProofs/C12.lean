import EntraitProofs.Anatomy
import EntraitProofs.Examples
/-
  C12 — async methods: exact Output type, Send by default, opt-out honoured.

  `T_C12`: without an `async_trait` sub-attribute every async source method is *declared* (in the
  generated / re-emitted trait and in the delegation-target trait) as a non-async fn returning
      impl ::core::future::Future<Output = R> [+ ::core::marker::Send]
  with `R` the declared return type (`()` if omitted) and the `Send` bound present iff `?Send` was
  not given, while the delegating impl keeps `async fn … -> R` and its body ends in `.await`;
  non-async methods are untouched.  With `async_trait` present the signatures are unchanged and
  that attribute is re-applied to the generated trait(s) and impl, and nowhere else.
-/
namespace Entrait.C12
open Entrait

theorem makeTraitFnSig_spec (sig : Sig) (subAttrs : List Attr) (opts : Opts) :
    (makeTraitFnSig sig subAttrs opts).async_ = (sig.async_ && containsAsyncTrait subAttrs) ∧
    (makeTraitFnSig sig subAttrs opts).output =
      (if sig.async_ && !containsAsyncTrait subAttrs then some (futureWrapper sig.output opts.futureSendValue) else sig.output) := by
  rw [makeTraitFnSig_eq, declRewritten]
  cases ha : sig.async_ <;> cases hc : containsAsyncTrait subAttrs <;> simp [ha]

/-- the test `asyncImplOk` makes on the last two tokens of a body -/
theorem body_await (pre : Toks) (f : String) (args : Toks) (isAsync : Bool) :
    ((pre ++ [i f, parens args] ++ (if isAsync then [p '.', i "await"] else [])).drop
      ((pre ++ [i f, parens args] ++ (if isAsync then [p '.', i "await"] else [])).length - 2)
        == [p '.', i "await"]) = isAsync := by
  cases isAsync
  · simp [i, p, parens]
  · simp

theorem asyncAttrsOk_of (itemAttrs L : List Attr)
    (h1 : ∀ a ∈ itemAttrs, a.subKind = .asyncTrait → a ∈ L)
    (h2 : ∀ a ∈ L, a.subKind ≠ .asyncTrait ∨ a ∈ itemAttrs) : asyncAttrsOk itemAttrs L = true := by
  unfold asyncAttrsOk
  simp only [Bool.and_eq_true, List.all_eq_true, List.mem_filter, List.contains_iff_mem,
    Bool.or_eq_true, bne_iff_ne, beq_iff_eq, and_imp]
  exact ⟨fun a ha hk => h1 a ha hk, fun a ha => h2 a ha⟩

theorem asyncAttrsOk_genTraitDef (opts ind depMode vis ident tg sup fns mode) (itemAttrs : List Attr) :
    asyncAttrsOk itemAttrs (genTraitDef opts ind depMode itemAttrs vis ident tg sup fns mode).attrs = true := by
  refine asyncAttrsOk_of _ _ (fun a ha hk => List.mem_append_right _ (reappliedSubs_async ha hk)) fun a ha => ?_
  rcases List.mem_append.mp ha with ha | ha
  · exact .inl (own_of_mem ha).1.subKind_ne
  · exact .inr (mem_reappliedSubs ha)

theorem asyncAttrsOk_filter (itemAttrs : List Attr) :
    asyncAttrsOk itemAttrs (itemAttrs.filter (fun a => a.subKind == .asyncTrait)) = true :=
  asyncAttrsOk_of _ _ (fun a ha hk => List.mem_filter.mpr ⟨ha, by simp [hk]⟩) fun a ha => .inr (List.mem_filter.mp ha).1

theorem asyncImplOk_delegating (mode : InputMode) (ind : ImplIndirection) (src : Sig) (tf : TraitFn)
    (h1 : tf.sig.async_ = src.async_) (h2 : tf.sig.output = src.output) (h3 : tf.originallyAsync = src.async_) (as : List Attr) :
    asyncImplOk src (.fn as tf.sig (some (delegatingBody mode ind tf))) = true := by
  unfold asyncImplOk delegatingBody
  simp only [h1, h2, h3, beq_self_eq_true, Bool.true_and]
  rw [body_await, beq_self_eq_true]

theorem asyncDeclOk_make (itemAttrs : List Attr) (opts : Opts) (src : Sig) (tf : TraitFn)
    (h1 : tf.sig.async_ = src.async_) (h2 : tf.sig.output = src.output) :
    asyncDeclOk (containsAsyncTrait itemAttrs) opts.futureSendValue src (makeTraitFnSig tf.sig itemAttrs opts) = true := by
  obtain ⟨ha, ho⟩ := makeTraitFnSig_spec tf.sig itemAttrs opts
  unfold asyncDeclOk
  rw [ha, ho, h1, h2]
  simp

theorem impl_ok {kind : ReceiverKind} {opts : Opts} {ind : ImplIndirection} {traitRef : Toks} {item : Item}
    {tg : TraitGenerics} {depMode : DepMode} {im : GenImpl} (d : Delegation kind opts ind traitRef item tg depMode im) :
    (zipAll asyncImplOk (item.sourceFns.map (·.sig)) im.members && asyncAttrsOk item.attrs im.attrs) = true := by
  rw [d.members_eq, zipAll_map_map, Bool.and_eq_true, List.all_eq_true]
  exact ⟨fun f hf => asyncImplOk_delegating _ _ f.sig _ rfl rfl rfl _,
    by rw [d.impl]; exact asyncAttrsOk_filter _⟩

theorem T_C12_fnmod (v : Variant) (attr : Toks) (item : Item) (out : Out)
    (hm : item.inputMode = .singleFn ∨ item.inputMode = .module) (h : expand v attr item = .ok out) :
    P_C12 v attr item out.view = true := by
  obtain ⟨a, tg, depMode, im, h1, d, htr, him⟩ := expand_fnmod_ok h hm
  have himpl := impl_ok d
  have hdecl : zipAll (asyncDeclOkM (containsAsyncTrait item.attrs) (v.apply a.opts).futureSendValue)
      (item.sourceFns.map (·.sig))
      (((item.traitFns .selfRef (v.apply a.opts)).map fun tf =>
        GenMember.fn tf.attrs (makeTraitFnSig tf.sig item.attrs (v.apply a.opts)) none).filter (·.sig?.isSome)) = true := by
    rw [filter_sig_all _ _ fun _ => rfl, Item.traitFns, List.map_map, zipAll_map_map, List.all_eq_true]
    exact fun f hf => by
      simpa [asyncDeclOkM, GenMember.sig?] using
        asyncDeclOk_make item.attrs (v.apply a.opts) f.sig _ rfl rfl
  obtain ⟨f, rfl⟩ | ⟨m, rfl⟩ := Item.fnmod_cases hm <;>
  · simp only [P_C12, effectiveOpts, h1, htr, him, mainImpl?, List.getLast?_singleton, List.all_cons, List.all_nil,
      Bool.and_true, Item.srcSigs, Bool.and_eq_true, Bool.or_eq_true]
    exact ⟨.inr ⟨hdecl, asyncAttrsOk_genTraitDef ..⟩, Bool.and_eq_true _ _ ▸ himpl⟩

theorem T_C12_impl (v : Variant) (attr : Toks) (m : ImplItemIn) (out : Out)
    (h : expand v attr (.impl m) = .ok out) : P_C12 v attr (.impl m) out.view = true := by
  obtain ⟨a, tg, depMode, im, h1, d, htr, him⟩ := expandImpl_view h
  simpa only [P_C12, effectiveOpts, h1, htr, him, mainImpl?, List.getLast?_singleton, Item.srcSigs, Item.attrs,
    List.all_nil, Bool.true_and] using impl_ok d

theorem containsAsyncTrait_filter (as : List Attr) :
    containsAsyncTrait (as.filter (fun a => a.subKind == .asyncTrait)) = containsAsyncTrait as := by
  simp [containsAsyncTrait, List.any_filter]

/-- `g` is `id` for the re-emitted trait, the receiver conversion for a delegation-target trait -/
theorem traitDecls_ok (opts : Opts) (itemAttrs subAttrs : List Attr)
    (hAT : containsAsyncTrait subAttrs = containsAsyncTrait itemAttrs)
    (g : TraitFn → TraitFn) (hg : ∀ tf, (g tf).sig.async_ = tf.sig.async_ ∧ (g tf).sig.output = tf.sig.output)
    (fs : List TraitFnItem) :
    zipAll (asyncDeclOkM (containsAsyncTrait itemAttrs) opts.futureSendValue)
      (fs.map (·.sig))
      ((((fs.map traitFnOf).map g).map fun tf => GenMember.fn tf.attrs (makeTraitFnSig tf.sig subAttrs opts) none).filter
        (fun m => m.sig?.isSome)) = true := by
  rw [filter_sig_all _ _ fun _ => rfl, List.map_map, List.map_map, zipAll_map_map, List.all_eq_true]
  intro f _
  have := asyncDeclOk_make subAttrs opts f.sig (g (traitFnOf f)) (hg _).1 (hg _).2
  rwa [hAT] at this

theorem delegationCall_tail (attr : TraitAttr) (ca : Bool) (f : String) (args : List String) :
    ∃ pre a, delegationCall attr ca f args = pre ++ [i f, parens a] := by
  unfold delegationCall
  split
  · exact ⟨_, _, rfl⟩
  · exact ⟨_, _, (List.append_assoc _ [_, _, _] [_, _]).symm⟩
  · exact ⟨[i "self", p '.', i "as_ref", parens [], p '.', i "as_ref", parens [], p '.'], _, rfl⟩
  · exact ⟨[i "self", p '.', i "as_ref", parens [], p '.', i "borrow", parens [], p '.'], _, rfl⟩
  · exact ⟨[i "self", p '.', i "as_ref", parens [], p '.'], _, rfl⟩

theorem asyncImplOk_delegationMethod (attr : TraitAttr) (ca : Bool) (tf : TraitFn) (src : Sig)
    (h1 : tf.sig.async_ = src.async_) (h2 : tf.sig.output = src.output) (h3 : tf.originallyAsync = src.async_) :
    asyncImplOk src (delegationMethod attr ca tf) = true := by
  obtain ⟨pre, a, hc⟩ := delegationCall_tail attr ca tf.sig.ident
    (paramIdents (fixParams tf.sig.ident tf.sig.inputs))
  have hb := body_await pre tf.sig.ident a tf.originallyAsync
  unfold delegationMethod asyncImplOk
  simp only
  rw [hc, hb]
  simp [h1, h2, h3]

theorem delegTrait_ok (opts : Opts) (ind : TraitIndirection) (t : TraitItem)
    (g : TraitFn → TraitFn) (hg : ∀ tf, (g tf).sig.async_ = tf.sig.async_ ∧ (g tf).sig.output = tf.sig.output)
    (fs : List TraitFnItem) (members : List GenMember) (attrs : List Attr)
    (hm : members = ((fs.map traitFnOf).map g).map
      (fun tf => GenMember.fn tf.attrs (makeTraitFnSig tf.sig (traitImplSubAttrs t) (noMockOpts opts)) none))
    (ha : attrs = traitImplSubAttrs t ++
      (unimockAttrOf (noMockOpts opts) ind .rawTrait ((fs.map traitFnOf).map g) ++ entraitAttrOf .generic ++
        mockallAttrOf (noMockOpts opts) ++ reappliedSubs .rawTrait (traitImplSubAttrs t))) :
    (zipAll (asyncDeclOkM (containsAsyncTrait t.attrs) opts.futureSendValue) (fs.map (·.sig))
        (members.filter (fun m => m.sig?.isSome)) &&
      asyncAttrsOk t.attrs attrs) = true := by
  rw [Bool.and_eq_true]
  constructor
  · rw [hm]
    exact traitDecls_ok (noMockOpts opts) t.attrs (traitImplSubAttrs t) (containsAsyncTrait_filter t.attrs) g hg fs
  · rw [ha]
    refine asyncAttrsOk_of _ _ (fun a ha hk => List.mem_append_left _ (List.mem_filter.mpr ⟨ha, by simp [hk]⟩))
      fun a ha => ?_
    rcases List.mem_append.mp ha with ha | ha
    · exact .inr (List.mem_filter.mp ha).1
    · rcases List.mem_append.mp ha with ha | ha
      · exact .inl (own_of_mem (opts := noMockOpts opts) (depMode := .generic) ha).1.subKind_ne
      · exact .inr (List.mem_filter.mp (mem_reappliedSubs ha)).1

theorem T_C12_trait (v : Variant) (attr : Toks) (t : TraitItem) (out : Out)
    (h : expand v attr (.trait t) = .ok out) : P_C12 v attr (.trait t) out.view = true := by
  obtain ⟨a0, h1, _, htr, him⟩ := expandTrait_view h
  simp only [P_C12, effectiveOpts, h1, htr, him, mainImpl?, List.getLast?_singleton, Item.srcSigs, Item.attrs,
    List.all_cons, Bool.and_eq_true, List.all_eq_true, Bool.or_eq_true]
  refine ⟨⟨.inr ⟨?_, asyncAttrsOk_genTraitDef ..⟩, fun g hg => ?_⟩, ?_, asyncAttrsOk_filter t.attrs⟩
  · simpa [genTraitDef] using traitDecls_ok (v.apply a0.opts) t.attrs t.attrs rfl id
      (fun _ => ⟨rfl, rfl⟩) t.fns
  · rcases mem_delegationTraits hg with ⟨_, _, rfl⟩ | ⟨ind, conv, implIdent, hconv, rfl⟩
    · exact .inl ⟨rfl, rfl⟩
    · have := delegTrait_ok (v.apply a0.opts) ind t conv
        (fun tf => by obtain ⟨ins, tr, h⟩ := hconv tf; rw [h]; exact ⟨rfl, rfl⟩) t.fns _ _ rfl rfl
      exact .inr (by simpa [targetTrait, genTraitDef] using this)
  · simp only [traitImplBlock, List.map_map, zipAll_map_map, List.all_eq_true]
    exact fun f _ => asyncImplOk_delegationMethod _ _ (traitFnOf f) f.sig rfl rfl rfl

theorem T_C12 (v : Variant) (attr : Toks) (item : Item) (out : Out)
    (h : expand v attr item = .ok out) : P_C12 v attr item out.view = true := by
  cases item with
  | fn f => exact T_C12_fnmod v attr _ out (.inl rfl) h
  | mod_ m => exact T_C12_fnmod v attr _ out (.inr rfl) h
  | trait t => exact T_C12_trait v attr t out h
  | impl m => exact T_C12_impl v attr m out h

/-- `#[entrait(TrImpl, delegate_by = ref)]` on `Examples.traitTr`: an async method, declared on the trait and on the
    delegation-target trait -/
example :
    (match expand .plain [i "TrImpl", p ',', i "delegate_by", p '=', i "ref"] (.trait Examples.traitTr) with
     | .ok out => P_C12 .plain [i "TrImpl", p ',', i "delegate_by", p '=', i "ref"] (.trait Examples.traitTr) out.view
     | _ => false) = true := by decide +kernel

end Entrait.C12
