import EntraitProofs.C14
import EntraitProofs.C12
/-
  C19 — generated code is self-contained: no imports, no std, no name capture.

  `T_C19`: in every expansion
  * the bounds on the macro's own type parameter `EntraitT` are absolute paths (`::core::marker::Sync`,
    `::core::marker::Send`) or the lifetime `'static`;
  * the impl is for `EntraitT`, for `::entrait::Impl<EntraitT>`, or for the type the user wrote;
  * what the macro requires of `T` in trait mode is an absolute path (`::core::convert::AsRef<..>`,
    `::core::borrow::Borrow<..>`, `::core::marker::*`, `'static`) or one of the user's own trait names;
  * every delegating body is one of the recognised call shapes, which refer to nothing but the
    callee, the method's own parameters, `self` / `Self` / `__impl` / `EntraitT`, and absolute
    `::core::..` paths;
  * a return type in a generated trait is the user's own or the absolute
    `impl ::core::future::Future<Output = R> [+ ::core::marker::Send]` form (from `T_C12`).
  Name *resolution* itself (that an absolute path cannot be captured) is rustc's; the reserved
  names are `EntraitT` and `__impl`.  Partial in that sense.
-/
namespace Entrait.C19
open Entrait

theorem absolute_sync : absolute syncToks = true := rfl
theorem absolute_send : absolute sendToks = true := rfl
theorem absolute_static : absolute staticToks = true := rfl
theorem absolute_asRef (x : Toks) : absolute (asRefPath ++ x) = true := rfl
theorem absolute_borrow (x : Toks) : absolute (borrowPath ++ x) = true := rfl

theorem macroHeadAbsolute_of {ps : List GParam} {bv : Bool} (h : macroParam ps = some (implTParam bv)) :
    macroHeadAbsolute ps = true := by
  unfold macroHeadAbsolute
  rw [h]
  cases bv <;> decide +kernel

theorem bodyShape_of_static (attr : Toks) (item : Item) (hi : ∀ t, item ≠ .trait t) (m : GenMember)
    (h : staticBodyOk attr item m = true) : bodyShapeOk attr item m = true := by
  unfold staticBodyOk at h
  unfold bodyShapeOk
  cases m with
  | raw ts => rfl
  | fn as sig body =>
    cases body with
    | none => rfl
    | some b =>
      cases item with
      | trait t => exact absurd rfl (hi t)
      | fn f => exact h
      | mod_ mm => exact h
      | impl mm => exact h

theorem outputOk_of_asyncDecl (hasAT send : Bool) (src : Sig) (m : GenMember)
    (h : asyncDeclOkM hasAT send src m = true) : outputOk src m = true := by
  unfold asyncDeclOkM at h
  unfold outputOk
  cases hs : m.sig? with
  | none => rw [hs] at h; simp at h
  | some g =>
    rw [hs] at h
    simp only [asyncDeclOk, Bool.and_eq_true, beq_iff_eq] at h
    simp only [h.2]
    split <;> cases send <;> simp

theorem traits_of_C12 (v : Variant) (attr : Toks) (item : Item) (view : View)
    (h : P_C12 v attr item view = true) : (traitsOf view.items).all (traitAbsoluteOk item) = true := by
  unfold P_C12 at h
  cases ho : effectiveOpts v attr item with
  | none => rw [ho] at h; simp at h
  | some o =>
    rw [ho] at h
    simp only [Bool.and_eq_true, List.all_eq_true] at h ⊢
    intro t ht
    have := h.1 t ht
    simp only [Bool.or_eq_true, Bool.and_eq_true] at this
    unfold traitAbsoluteOk
    rcases this with ⟨hsel, _⟩ | ⟨hz, _⟩
    · simp only [isSelectorLike, Bool.and_eq_true] at hsel
      simp [hsel.1]
    · simp only [Bool.or_eq_true]
      right
      exact zipAll_mono _ _ _ _ (fun a _ b _ => outputOk_of_asyncDecl _ _ a b) hz

theorem expectedShape_mem (a : TraitAttr) (ca : Bool) : expectedShape a ca ∈ allShapes a := by
  unfold expectedShape allShapes
  split
  · rename_i h _; simp [h]
  · rename_i b h _; cases b <;> cases ca <;> simp [h]
  · rename_i b _ _; cases b <;> simp
  · simp

theorem traitImplTBounds_ok (a : TraitAttr) (ca : Bool) (ident : String) (tg : TraitGenerics) (names : List String)
    (hid : ident ∈ names) (hd : ∀ d, a.delegation = some (.byTrait d) → d ∈ names) :
    (traitImplTBounds a ca ident tg).all (traitBoundOk names) = true := by
  obtain ⟨extras, he, hx⟩ := traitImplTBounds_shape a ca ident tg
  rw [he, List.all_cons, Bool.and_eq_true, List.all_eq_true]
  refine ⟨?_, fun e h => by rcases hx e h with _ | ⟨_, _ | ⟨_, ⟨⟩⟩⟩ <;> rfl⟩
  have hname : ∀ s rest, s ∈ names → traitBoundOk names (i s :: rest) = true := fun s rest h => by
    simp [traitBoundOk, i, h]
  unfold providerBound
  split
  · exact hname _ _ (hd _ ‹_›)
  · rename_i b _ _; cases b <;> rfl
  · rename_i b _ _; cases b <;> rfl
  · exact hname _ _ hid

theorem T_C19 (v : Variant) (attr : Toks) (item : Item) (out : Out)
    (h : expand v attr item = .ok out) : P_C19 attr item out.view = true := by
  unfold P_C19
  rw [traits_of_C12 v attr item out.view (C12.T_C12 v attr item out h), Bool.and_true]
  by_cases hi : ∀ t, item ≠ .trait t
  · obtain ⟨kind, opts, ind, traitRef, tg, depMode, im, d, him, hind⟩ := expand_delegation h hi
    rw [him, List.all_cons, List.all_nil, Bool.and_true]
    unfold implAbsoluteOk
    rw [Bool.and_eq_true, Bool.and_eq_true]
    refine ⟨⟨by rw [d.impl]; exact List.all_eq_true.mpr fun m hm =>
        bodyShape_of_static attr item hi m (List.all_eq_true.mp (C14.bodies_ok attr item hi _ _ _) m hm),
      by cases item <;> first | rfl | exact absurd rfl (hi _)⟩, ?_⟩
    rcases d.header with hc | ⟨⟨bv, hp⟩, hs⟩
    · simp [hc]
    · rw [macroHeadAbsolute_of hp, hs]
      rcases hind with rfl | ⟨m, rfl, rfl | rfl⟩ <;> cases opts.mockable <;> simp [implSelfTy]
  · rcases item with _ | _ | t | _ <;> try exact absurd (fun _ => Item.noConfusion) hi
    obtain ⟨a0, h1, _, _, him⟩ := expandTrait_view h
    rw [him, List.all_cons, List.all_nil, Bool.and_true]
    unfold implAbsoluteOk
    rw [Bool.and_eq_true, Bool.and_eq_true]
    refine ⟨⟨?_, ?_⟩, by simp [traitImplBlock, macroHeadAbsolute_of (macroParam_generic _ _)]⟩
    · simp only [traitImplBlock, List.all_map, List.all_eq_true]
      intro f _
      have he : ∀ ca, expectedShape { a0 with opts := v.apply a0.opts } ca = expectedShape a0 ca := fun _ => rfl
      simp only [Function.comp, C06.delegationMethod_eq, bodyShapeOk, h1, he]
      rw [List.any_eq_true]
      exact ⟨_, expectedShape_mem a0 (traitContainsAsync t), by cases (traitFnOf f).originallyAsync <;> simp⟩
    · simp only [traitImplBlock, List.head?_cons, traitPredOk, userTraitNames, h1]
      refine traitImplTBounds_ok _ _ _ _ _ (by simp) (fun d h => ?_)
      simp [show a0.delegation = some (.byTrait d) from h]

/-- `#[entrait(delegate_by = ref)]` on `Examples.traitTr`, async and generic:
    `EntraitT: ::core::convert::AsRef<dyn Tr<T>> + ::core::marker::Sync + 'static` -/
example :
    (match expand .plain [i "delegate_by", p '=', i "ref"] (.trait Examples.traitTr) with
     | .ok out => ((implsOf out.view.items).length, P_C19 [i "delegate_by", p '=', i "ref"] (.trait Examples.traitTr) out.view)
     | _ => (0, false)) = (1, true) := by decide +kernel

end Entrait.C19
