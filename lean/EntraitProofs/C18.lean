import EntraitProofs.Anatomy
import EntraitProofs.Examples
/-
  C18 — foreign attributes stay where the user put them.

  `T_C18`: in fn / mod / impl-block mode a generated trait carries only attributes entrait owns
  (its mock derivations, the nested entrait attribute of concrete-dependency traits) plus the
  `async_trait` / `automock` attributes of the input that entrait deliberately re-applies; a
  generated impl carries only re-applied `async_trait`; a generated method carries exactly the `cfg` attributes of
  its function in a module / impl block (none for a single function: the former finding C18.cfgfn, fixed in 5609852)
  and generated signatures no parameter attributes.  In trait mode every delegating method of
  `Impl<T>` carries exactly the attributes of the source method.
  (A `cfg` hidden in `cfg_attr` is not mirrored: the listed finding C18.cfgattr, `C18_cfgattr_witness`.)
-/
namespace Entrait.C18
open Entrait

theorem noParamAttrs_erasePat : ∀ xs : List FnArg, noParamAttrs (xs.map FnArg.erasePat) = noParamAttrs xs
  | [] => rfl
  | .recv [] .. :: xs | .typed [] .. :: xs => by
      simp only [List.map_cons, FnArg.erasePat, noParamAttrs]; exact noParamAttrs_erasePat xs
  | .recv (_ :: _) .. :: _ | .typed (_ :: _) .. :: _ => rfl

theorem noParamAttrs_strip : ∀ (xs : List FnArg), noParamAttrs (xs.map FnArg.stripAttrs) = true
  | [] => rfl
  | .recv .. :: xs => by simp only [List.map_cons, FnArg.stripAttrs, noParamAttrs]; exact noParamAttrs_strip xs
  | .typed .. :: xs => by simp only [List.map_cons, FnArg.stripAttrs, noParamAttrs]; exact noParamAttrs_strip xs

theorem analyzeFn_noAttrs {kind : ReceiverKind} {opts : Opts} {sig : Sig} {tg tg' : TraitGenerics} {tf : TraitFn}
    (h : analyzeFn kind opts sig tg = .ok (tf, tg')) : tf.attrs = [] ∧ noParamAttrs tf.sig.inputs = true := by
  obtain ⟨deps, r, tr, _, _, rfl⟩ := analyzeFn_closed h
  refine ⟨rfl, ?_⟩
  rw [← noParamAttrs_erasePat, fixParams_shape, noParamAttrs_erasePat]
  -- the stripped parameters carry none, and the receivers put in front neither
  have hs := noParamAttrs_strip (sig.userParams opts.noDepsValue)
  cases kind <;> simpa [modeReceivers, noParamAttrs, implReceiverWith, implReceiverArg] using hs

theorem traitAttrs_ok (opts : Opts) (ind depMode) (itemAttrs : List Attr) (vis ident tg sup fns mode)
    (hmode : mode ≠ .rawTrait) :
    (genTraitDef opts ind depMode itemAttrs vis ident tg sup fns mode).attrs.all
      (fun a => entraitOwned a ||
        (itemAttrs.contains a && (a.subKind == .asyncTrait || a.subKind == .automock))) = true := by
  simp only [genTraitDef, List.all_eq_true, Bool.or_eq_true, Bool.and_eq_true]
  intro a ha
  rcases List.mem_append.mp ha with ha | ha
  · exact .inl (own_of_mem ha).1.owned
  · obtain ⟨hmem, hk⟩ := reappliedSubs_subKind hmode ha
    exact .inr ⟨by simpa using hmem, by simpa using hk⟩

theorem isCfgAttr_eq (a : Attr) : a.isCfgAttr = isPlainCfg a := by
  unfold Attr.isCfgAttr isPlainCfg
  cases hi : a.inner with
  | nil => simp
  | cons t rest =>
    by_cases ht : t = .ident "cfg"
    · subst ht
      cases rest with
      | nil => simp
      | cons u rest' =>
        by_cases hu : u = .punct ':'
        · subst hu; simp
        · simp [hu]
    · simp [ht]

theorem attachCfg_spec : ∀ (fs : List FnItem) (fns0 : List TraitFn),
    zipAll (fun (_ : Sig) (tf : TraitFn) => noParamAttrs tf.sig.inputs) (fs.map (·.sig)) fns0 = true →
    zipAll (fun c (tf : TraitFn) => tf.attrs == c && noParamAttrs tf.sig.inputs)
      (fs.map (fun f => f.attrs.filter isPlainCfg)) (attachCfg (fs.map (·.attrs)) fns0) = true
  | [], [], _ => rfl
  | [], _ :: _, h => by simp [zipAll] at h
  | _ :: _, [], h => by simp [zipAll] at h
  | f :: fs, tf :: fns0, h => by
      simp only [List.map_cons, zipAll, Bool.and_eq_true] at h
      simp only [List.map_cons, attachCfg, zipAll, Bool.and_eq_true, withCfgOf_attrs, withCfgOf_sig]
      refine ⟨⟨?_, h.1⟩, attachCfg_spec fs fns0 h.2⟩
      simp [funext isCfgAttr_eq]

/-- `mk` makes the member out of an analysed function: the trait's declaration, or the impl's delegating method -/
theorem members_ok {kind : ReceiverKind} {opts : Opts} {ind : ImplIndirection} {traitRef : Toks} {item : Item}
    {tg : TraitGenerics} {depMode : DepMode} {im : GenImpl} (d : Delegation kind opts ind traitRef item tg depMode im)
    (hitem : ∀ t, item ≠ .trait t) (mk : TraitFn → GenMember)
    (hmk : ∀ tf, ∃ s b, mk tf = .fn tf.attrs s b ∧ s.inputs = tf.sig.inputs) :
    memberAttrsOk (mirroredAttrs item) ((item.traitFns kind opts).map mk) = true := by
  have hmir : mirroredAttrs item = item.sourceFns.map fun f => (item.traitFn kind opts f).attrs := by
    have hcfg : Attr.isCfgAttr = isPlainCfg := funext isCfgAttr_eq
    rcases item with f | m | t | m
    · simp [mirroredAttrs, Item.sourceFns, Item.traitFn]
    · simp [mirroredAttrs, Item.traitFn, hcfg]
    · exact absurd rfl (hitem t)
    · simp [mirroredAttrs, Item.traitFn, hcfg]
  rw [memberAttrsOk, hmir, Item.traitFns, List.map_map, zipAll_map_map, List.all_eq_true]
  intro f hf
  obtain ⟨s, b, hs, hin⟩ := hmk (item.traitFn kind opts f)
  simp [hs, hin, (analyzeFn_noAttrs (d.analyzedFn hf)).2]

theorem impls_ok {v : Variant} {attr : Toks} {item : Item} {out : Out} (h : expand v attr item = .ok out)
    (hi : ∀ t, item ≠ .trait t) :
    (implsOf out.view.items).all (fun m =>
      m.attrs.all (fun a => item.attrs.contains a && a.subKind == .asyncTrait) &&
      memberAttrsOk (mirroredAttrs item) m.members) = true := by
  obtain ⟨kind, opts, ind, traitRef, tg, depMode, im, d, him, _⟩ := expand_delegation h hi
  rw [him, List.all_cons, List.all_nil, Bool.and_true, Bool.and_eq_true, d.impl]
  exact ⟨List.all_eq_true.mpr fun a ha => by simpa using List.mem_filter.mp ha, members_ok d hi _ fun tf => ⟨_, _, rfl, rfl⟩⟩

theorem T_C18 (v : Variant) (attr : Toks) (item : Item) (out : Out)
    (h : expand v attr item = .ok out) : P_C18 item out.view = true := by
  have hmake : ∀ (subs : List Attr) (o : Opts) (tf : TraitFn), ∃ s b,
      GenMember.fn tf.attrs (makeTraitFnSig tf.sig subs o) none = .fn tf.attrs s b ∧ s.inputs = tf.sig.inputs :=
    fun subs o tf => ⟨_, _, rfl, makeTraitFnSig_inputs ..⟩
  by_cases hm : item.inputMode = .singleFn ∨ item.inputMode = .module
  · obtain ⟨a, tg, depMode, im, _, d, htr, _⟩ := expand_fnmod_ok h hm
    have hi : ∀ t, item ≠ .trait t := by rintro t rfl; simp [Item.inputMode] at hm
    have h1 := traitAttrs_ok (v.apply a.opts) .plain depMode item.attrs a.traitVis a.traitIdent tg {}
      (item.traitFns .selfRef (v.apply a.opts)) item.inputMode (by rintro hc; simp [hc] at hm)
    have h2 := members_ok d hi _ (hmake item.attrs (v.apply a.opts))
    have h3 := impls_ok h hi
    obtain ⟨f, rfl⟩ | ⟨m, rfl⟩ := Item.fnmod_cases hm <;>
    · simp only [P_C18, htr, List.all_cons, List.all_nil, Bool.and_true, Bool.and_eq_true]
      exact ⟨⟨h1, h2⟩, h3⟩
  · obtain ⟨t, rfl⟩ | ⟨m, rfl⟩ := Item.not_fnmod_cases hm
    · obtain ⟨a0, _, _, htr, him⟩ := expandTrait_view h
      simp only [P_C18, mainImpl?, him, htr, List.getLast?_singleton, Bool.and_eq_true, List.all_eq_true, Bool.or_eq_true]
      refine ⟨?_, fun g hg => ?_⟩
      · rw [traitImplBlock, List.map_map, zipAll_map_self]
        simp [delegationMethod, traitFnOf, GenMember.attrs]
      · rcases traitMode_members hg with ⟨_, _, rfl⟩ | ⟨sig, _, hm⟩
        · exact .inl rfl
        · rw [hm, List.filter_eq_self.mpr (List.forall_mem_map.mpr fun _ _ => rfl), zipAll_map_self]
          exact .inr (by simp [GenMember.attrs])
    · obtain ⟨a, tg, depMode, im, _, _, htr, _⟩ := expandImpl_view h
      simp only [P_C18, htr, List.all_nil, Bool.true_and]
      exact impls_ok h (by simp)

/-- `mod m { #[cfg(any())] #[inline] pub fn a(d: &impl X) {} pub fn c(d: &impl X) {} }` — the trait
    method and the delegating method of `a` carry `#[cfg(any())]` and not `#[inline]`, those of `c` nothing -/
example :
    (match expand .plain [i "Foo"] (.mod_ Examples.modCfg) with
     | .ok out =>
        (traitsOf out.view.items).map (fun t => t.members.map GenMember.attrs) ++
        (implsOf out.view.items).map (fun m => m.members.map GenMember.attrs)
     | _ => []) =
    [[[⟨[i "cfg", parens [i "any", parens []]]⟩], []], [[⟨[i "cfg", parens [i "any", parens []]]⟩], []]] := by decide +kernel

/-- the recorded defect `C18.cfgattr`, in the model as in the macro: a function disabled through
    `#[cfg_attr(all(), cfg(any()))]` keeps its trait method and delegating method (nothing is mirrored), so the
    full last clause of the property ("cfg-disabled functions .. do not leave a dangling trait method behind")
    fails for it although `P_C18` — which speaks about plain `cfg` attributes — holds -/
theorem C18_cfgattr_witness :
    (match expand .plain [i "Foo"] (.mod_ Examples.modCfgAttr) with
     | .ok out => F_C18_cfgattr (.mod_ Examples.modCfgAttr) out.view && P_C18 (.mod_ Examples.modCfgAttr) out.view
     | _ => false) = true := by decide +kernel

end Entrait.C18
