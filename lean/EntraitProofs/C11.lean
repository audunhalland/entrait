import EntraitProofs.Anatomy
import EntraitProofs.Examples
/-
  C11 — unimock wiring.

  `T_C11`: whenever the macro attaches its unimock derivation to the generated / re-emitted trait,
  it attaches exactly one, and its arguments are exactly
      prefix = ::entrait::__unimock
      [, api = [Name]]          -- single fn: the mock function itself
      [, api = Name]            -- module / trait: a module of per-method mock functions
      [, unmock_with = [e₁, …, eₙ]]   -- fn / mod only, one entry per method, in method order
  where `Name` is the `mock_api` option and entry `eᵢ` is `fᵢ` for a generic dependency (the
  original function, called with the mock object as dependency and the same arguments),
  `fᵢ(p₁, …, pₖ)` for `no_deps` (the original called with the method's own parameters in order)
  and `_` (not un-mockable) for a concrete dependency; an entraited trait gets no `unmock_with`.
  What unimock does with these arguments (pairing entry i with method i, argument order of the
  mock function) is unimock's contract, read from its documentation; `C11Sem` states it as an assumption
  and reads the arguments under it.
-/
namespace Entrait.C11
open Entrait

theorem unimockArgs_gated (e : Bool) (x : Toks) :
    (exportGated e (unimockPath ++ [parens x])).unimockArgs = some (unimockPath ++ [parens x]) := by
  cases e <;> rfl

theorem unimockArgs_gated_mockall (e : Bool) : (exportGated e mockallPath).unimockArgs = none := by
  cases e <;> decide +kernel

theorem unimockArgs_entraitAttr : entraitForTraitAttr.unimockArgs = none := by decide +kernel

theorem reapplied_noUnimock (mode : InputMode) (hmode : mode ≠ .rawTrait) (subAttrs : List Attr) :
    (reappliedSubs mode subAttrs).filterMap Attr.unimockArgs = [] := by
  rw [List.filterMap_eq_nil_iff]
  intro a ha
  rcases hu : a.unimockArgs with _ | ps
  · rfl
  · rcases (reappliedSubs_subKind hmode ha).2 with hk | hk <;> rw [unimockArgs_subKind a ps hu] at hk <;> cases hk

theorem found_genTraitDef (opts : Opts) (ind depMode subAttrs vis ident tg sup fns mode)
    (hR : (reappliedSubs mode subAttrs).filterMap Attr.unimockArgs = []) :
    (genTraitDef opts ind depMode subAttrs vis ident tg sup fns mode).attrs.filterMap Attr.unimockArgs =
      if opts.unimockValue then (unimockParams ind opts.mockApi mode fns).toList else [] := by
  have hE : (entraitAttrOf depMode).filterMap Attr.unimockArgs = [] := by
    cases depMode <;> simp [entraitAttrOf, unimockArgs_entraitAttr]
  have hM : (mockallAttrOf opts).filterMap Attr.unimockArgs = [] := by
    unfold mockallAttrOf
    cases opts.mockallValue <;> simp [unimockArgs_gated_mockall]
  simp only [genTraitDef, List.filterMap_append, hR, hE, hM, List.append_nil]
  unfold unimockAttrOf
  cases hu : opts.unimockValue
  · simp
  · simp only [if_true]
    cases hp : unimockParams ind opts.mockApi mode fns with
    | none => rfl
    | some ps =>
      obtain ⟨x, rfl⟩ := unimockParams_shape hp
      simp [unimockArgs_gated]

/-- per function: the model's `unmock_with` entry is the documented one -/
def entryMatch (nd : Bool) (s : Sig) (tf : TraitFn) : Bool :=
  decide (unmockEntry tf = depKindEntry nd s tf.sig)

theorem entryMatch_of_analyzeFn {opts : Opts} {s : Sig} {tg tg' : TraitGenerics} {tf : TraitFn}
    (h : analyzeFn .selfRef opts s tg = .ok (tf, tg')) : entryMatch opts.noDepsValue s tf = true := by
  unfold entryMatch unmockEntry depKindEntry
  rw [decide_eq_true_eq]
  rcases analyzeFn_deps_cases h with ⟨hn, hd⟩ | ⟨hn, _, _, _, _, _, ⟨hc, hd⟩ | ⟨hc, hd⟩⟩ <;> simp [*]

theorem entries_of_zip (nd : Bool) : ∀ (srcs : List FnItem) (fns : List TraitFn),
    zipAll (entryMatch nd) (srcs.map (·.sig)) fns = true →
      fns.map unmockEntry = (srcs.zip (fns.map (·.sig))).map (fun sg => depKindEntry nd sg.1.sig sg.2)
  | [], [], _ => rfl
  | [], _ :: _, h => by simp [zipAll] at h
  | _ :: _, [], h => by simp [zipAll] at h
  | s :: srcs, tf :: fns, h => by
      simp only [List.map_cons, zipAll, Bool.and_eq_true] at h
      have h1 := h.1
      simp only [entryMatch, decide_eq_true_eq] at h1
      simp [h1, entries_of_zip nd srcs fns h.2]

theorem members_sigs (mode : InputMode) (ind : ImplIndirection) (fns : List TraitFn) :
    (fns.map fun tf => GenMember.fn [] tf.sig (some (delegatingBody mode ind tf))).filterMap GenMember.sig? =
      fns.map (·.sig) := by
  rw [List.filterMap_map]
  exact congrFun List.filterMap_eq_map _

theorem unimockParams_expected (o : Opts) (mode : InputMode) (hmode : mode = .singleFn ∨ mode = .module)
    (srcs : List FnItem) (fns : List TraitFn) (ps : Toks)
    (hz : zipAll (entryMatch o.noDepsValue) (srcs.map (·.sig)) fns = true)
    (hp : unimockParams .plain o.mockApi mode fns = some ps) :
    ps = unimockSpec o.mockApi (mode == .singleFn)
      (unmockSpec ((srcs.zip (fns.map (·.sig))).map (fun sg => depKindEntry o.noDepsValue sg.1.sig sg.2))) := by
  have he := entries_of_zip o.noDepsValue srcs fns hz
  have hemp : ((srcs.zip (fns.map (·.sig))).map (fun sg => depKindEntry o.noDepsValue sg.1.sig sg.2)).isEmpty = fns.isEmpty := by
    rw [← he]; cases fns <;> rfl
  unfold unimockParams at hp
  split at hp
  · simp at hp
  · injection hp with hp
    rw [← hp]
    unfold unimockSpec unmockSpec
    rw [hemp, ← he]
    rcases hmode with rfl | rfl <;> cases fns <;> rfl

theorem unimockParams_trait (o : Opts) (fns : List TraitFn) :
    unimockParams .trait o.mockApi .rawTrait fns = some (unimockSpec o.mockApi false []) := by
  unfold unimockParams unimockSpec
  cases o.mockApi <;> simp

theorem T_C11 (v : Variant) (attr : Toks) (item : Item) (out : Out)
    (hnu : item.noUserUnimock = true) (h : expand v attr item = .ok out) : P_C11 v attr item out.view = true := by
  by_cases hm : item.inputMode = .singleFn ∨ item.inputMode = .module
  · obtain ⟨a, tg, depMode, im, h1, d, htr, him⟩ := expand_fnmod_ok h hm
    -- the trait carries at most the one derivation `unimockParams ..` (`found_genTraitDef`); its arguments are the
    -- specified ones once every `unmock_with` entry is (`hz`, function by function)
    have hz : zipAll (entryMatch (v.apply a.opts).noDepsValue) (item.sourceFns.map (·.sig))
        (item.traitFns .selfRef (v.apply a.opts)) = true := by
      rw [Item.traitFns, zipAll_map_map, List.all_eq_true]
      intro f hf
      unfold entryMatch unmockEntry
      rw [Item.traitFn_sig, Item.traitFn_deps]
      exact entryMatch_of_analyzeFn (d.analyzedFn hf)
    have hsigs : im.members.filterMap GenMember.sig? = (item.traitFns .selfRef (v.apply a.opts)).map (·.sig) := by
      rw [d.impl, List.filterMap_map]
      exact congrFun List.filterMap_eq_map _
    have hmode : item.inputMode ≠ .rawTrait := by rintro hc; simp [hc] at hm
    have hexp := fun ps => unimockParams_expected (v.apply a.opts) item.inputMode hm item.sourceFns _ ps hz
    obtain ⟨f, rfl⟩ | ⟨m, rfl⟩ := Item.fnmod_cases hm <;>
    · simp only [P_C11, effectiveOpts, h1, mainTrait?, htr, List.head?_cons,
        found_genTraitDef _ _ _ _ _ _ _ _ _ _ (reapplied_noUnimock _ hmode _)]
      cases (v.apply a.opts).unimockValue
      · rfl
      · rcases hp : unimockParams .plain (v.apply a.opts).mockApi _ _ with _ | ps
        · rfl
        · simp [hexp ps hp, expectedUnimock, Item.mode, mainImpl?, him, unmockEntries, hsigs, Item.inputMode,
            (by decide : (InputMode.module == InputMode.singleFn) = false), (by decide : (Mode.mod_ == Mode.fn) = false)]
  · obtain ⟨t, rfl⟩ | ⟨m, rfl⟩ := Item.not_fnmod_cases hm
    · obtain ⟨a0, h1, _, htr, _⟩ := expandTrait_view h
      have hR : (reappliedSubs .rawTrait t.attrs).filterMap Attr.unimockArgs = [] := by
        rw [reappliedSubs_rawTrait, List.filterMap_eq_nil_iff]
        exact fun a ha => by simpa using List.all_eq_true.mp hnu a ha
      simp only [P_C11, effectiveOpts, h1, mainTrait?, htr, List.head?_cons, found_genTraitDef _ _ _ _ _ _ _ _ _ _ hR,
        unimockParams_trait]
      cases (v.apply a0.opts).unimockValue <;>
        simp [expectedUnimock, Item.mode, (by decide : (Mode.trait == Mode.fn) = false)]
    · obtain ⟨a, tg, depMode, im, h1, _, htr, _⟩ := expandImpl_view h
      simp [P_C11, effectiveOpts, h1, mainTrait?, htr, Item.mode]

/-- `#[entrait(pub Foo, mock_api = M, unimock)]` on `Examples.fnFoo` -/
example :
    (match expand .plain [i "pub", i "Foo", p ',', i "mock_api", p '=', i "M", p ',', i "unimock"] (.fn Examples.fnFoo) with
     | .ok out => (traitsOf out.view.items).map (fun t => (t.attrs.filterMap Attr.unimockArgs).length)
     | _ => []) = [1] := by decide +kernel

end Entrait.C11
