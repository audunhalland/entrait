import EntraitProofs.C19
/-
  C19 read semantically: *no name capture*.

  `T_C19` pins the spelling: every requirement the macro itself writes is an absolute path (`::core::..`,
  `::entrait::..`) or a lifetime.  This file adds the step from spelling to meaning that does not need rustc.
  A path is resolved through its *head*: a bare first segment is looked up in the scope of the invocation
  site (`scope`: items, `use` declarations, the prelude — everything a user can put there, including a local
  `mod core`, `trait Sync`, `struct Impl`), a path with a leading `::` is looked up in the crate graph
  (`root`: the extern prelude), which nothing at the invocation site can change.

  On every view on which `P_C19` holds (`T_C19_view`) — the model's output by `T_C19`, and the real macro's
  output on every case where the driver evaluated `P_C19` to 1 — every bound the macro writes on its own
  parameter `EntraitT` resolves independently of the scope; in trait mode every requirement on `T`
  resolves identically under any two scopes that agree on the names the *user* chose (the trait's own
  name, the delegation-target trait, the custom delegation trait).  The rewritten return type of an async
  method resolves its `Future` (and `Send`) independently of the scope (`T_C19_future`).

  That rustc resolves paths this way is sampled by the probe `p_c19_capture` (a crate that shadows `core`,
  `std`, `Sync`, `Send`, `Future`, `Impl`, `entrait` at the invocation site).
-/
namespace Entrait.C19Sem
open Entrait

/-- what names denote: `scope` at the invocation site, `root` in the crate graph -/
structure Env where
  scope : String → Option Nat
  root  : String → Option Nat

/-- resolution of the head of a path (a lifetime is not looked up in the item namespace) -/
def resolveHead (e : Env) : Toks → Option Nat
  | .punct ':' :: .punct ':' :: .ident s :: _ => e.root s
  | .punct ':' :: .punct ':' :: _ => none
  | [.punct '\'', .ident _] => some 0
  | .ident s :: _ => e.scope s
  | _ => none

theorem resolveHead_absolute (r : String → Option Nat) (s1 s2 : String → Option Nat) (b : Toks)
    (h : absolute b = true) : resolveHead ⟨s1, r⟩ b = resolveHead ⟨s2, r⟩ b := by
  unfold absolute at h
  split at h
  · rename_i rest
    cases rest with
    | nil => rfl
    | cons t rest' => cases t <;> rfl
  · rfl
  · cases h

theorem resolveHead_user (r : String → Option Nat) (s1 s2 : String → Option Nat) (names : List String)
    (hag : ∀ n ∈ names, s1 n = s2 n) (b : Toks) (h : traitBoundOk names b = true) :
    resolveHead ⟨s1, r⟩ b = resolveHead ⟨s2, r⟩ b := by
  unfold traitBoundOk at h
  cases ha : absolute b
  · rw [ha, Bool.false_or] at h
    cases b with
    | nil => cases h
    | cons t rest =>
      cases t with
      | ident s =>
        have hs : s ∈ names := by simpa using h
        simp only [resolveHead]
        exact hag s hs
      | punct c => cases h
      | lit l => cases h
      | group d ts => cases h
  · exact resolveHead_absolute r s1 s2 b ha

def boundsOf : GParam → List Toks
  | .ty _ _ bs _ _ => bs
  | .lt _ _ bs _ => bs
  | .const_ .. => []

def predBounds : WherePred → List Toks
  | .ty _ _ bs _ => bs
  | .other _ => []

theorem macroHeadAbsolute_inv {ps : List GParam} {q : GParam} (h : macroHeadAbsolute ps = true)
    (hq : macroParam ps = some q) : ∀ b ∈ boundsOf q, absolute b = true := by
  unfold macroHeadAbsolute at h
  rw [hq] at h
  split at h
  · rename_i heq
    cases heq
    exact List.all_eq_true.mp h
  · cases h

theorem traitPredOk_inv {attr : Toks} {t : TraitItem} {q : WherePred} (h : traitPredOk attr (.trait t) (some q) = true) :
    ∀ b ∈ predBounds q, traitBoundOk (userTraitNames attr t) b = true := by
  cases q with
  | ty lts bd bs bt => exact List.all_eq_true.mp h
  | other ts => intro b hb; cases hb

theorem T_C19_view (attr : Toks) (item : Item) (view : View) (h : P_C19 attr item view = true)
    (r : String → Option Nat) (s1 s2 : String → Option Nat) :
    ∀ im ∈ implsOf view.items,
      (concreteFn item = false → ∀ p, macroParam im.params = some p → ∀ b ∈ boundsOf p,
          resolveHead ⟨s1, r⟩ b = resolveHead ⟨s2, r⟩ b) ∧
      (∀ t, item = .trait t → (∀ n ∈ userTraitNames attr t, s1 n = s2 n) →
          ∀ q, im.preds.head? = some q → ∀ b ∈ predBounds q, resolveHead ⟨s1, r⟩ b = resolveHead ⟨s2, r⟩ b) := by
  intro im him
  simp only [P_C19, Bool.and_eq_true, List.all_eq_true] at h
  have hi := h.1 im him
  simp only [implAbsoluteOk, Bool.and_eq_true] at hi
  obtain ⟨⟨_, hpred⟩, hhead⟩ := hi
  refine ⟨fun hc q hq b hb => ?_, fun t ht hag q hq b hb => ?_⟩
  · rw [hc, Bool.false_or, Bool.and_eq_true] at hhead
    exact resolveHead_absolute r s1 s2 b (macroHeadAbsolute_inv hhead.1 hq b hb)
  · subst ht
    rw [hq] at hpred
    exact resolveHead_user r s1 s2 _ hag b (traitPredOk_inv hpred b hb)

theorem T_C19_sem (v : Variant) (attr : Toks) (item : Item) (out : Out) (h : expand v attr item = .ok out)
    (r : String → Option Nat) (s1 s2 : String → Option Nat) :
    ∀ im ∈ implsOf out.view.items,
      (concreteFn item = false → ∀ p, macroParam im.params = some p → ∀ b ∈ boundsOf p,
          resolveHead ⟨s1, r⟩ b = resolveHead ⟨s2, r⟩ b) ∧
      (∀ t, item = .trait t → (∀ n ∈ userTraitNames attr t, s1 n = s2 n) →
          ∀ q, im.preds.head? = some q → ∀ b ∈ predBounds q, resolveHead ⟨s1, r⟩ b = resolveHead ⟨s2, r⟩ b) :=
  T_C19_view attr item out.view (C19.T_C19 v attr item out h) r s1 s2

/-- the rewritten return type of an async method: `impl ::core::future::Future<..> [+ ::core::marker::Send]`;
    after the `impl` keyword and after the `+` the paths are absolute -/
theorem T_C19_future (o : Option Toks) (send : Bool) :
    ∃ rest, futureWrapper o send = .ident "impl" :: rest ∧ absolute rest = true ∧
      (send = true → ∃ pre, rest = pre ++ (.punct '+' :: sendToks) ∧ absolute sendToks = true) := by
  -- by unfolding: `futureWrapper` is `impl` consed onto `futurePath ++ ..`, and `futurePath` begins with `::`
  refine ⟨(futureWrapper o send).tail, rfl, rfl, ?_⟩
  rintro rfl
  exact ⟨futurePath ++ [p '<', i "Output", p '='] ++ o.getD [parens []] ++ [p '>'], rfl, C19.absolute_send⟩

/-- a scope that shadows `core`, `Sync` and `Impl` does not change what the macro's bounds mean,
    while it does change what a bare `Sync` would have meant -/
example :
    let shadow : String → Option Nat := fun n => if n == "core" || n == "Sync" || n == "Impl" then some 99 else none
    let plain : String → Option Nat := fun _ => none
    let root : String → Option Nat := fun n => if n == "core" then some 1 else if n == "entrait" then some 2 else none
    resolveHead ⟨shadow, root⟩ syncToks = some 1 ∧ resolveHead ⟨plain, root⟩ syncToks = some 1 ∧
    resolveHead ⟨shadow, root⟩ implPathToks = some 2 ∧
    resolveHead ⟨shadow, root⟩ [.ident "Sync"] = some 99 ∧ resolveHead ⟨plain, root⟩ [.ident "Sync"] = none := by
  decide +kernel

end Entrait.C19Sem
