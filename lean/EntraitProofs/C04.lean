import EntraitProofs.Header
import EntraitProofs.Anatomy
import EntraitProofs.Examples
/-
  C04 — dependency bounds bubble up exactly.

  `T_C04`: for an fn / mod input with generic (or `impl Trait`) dependencies, the generated impl
  * is parameterised by `EntraitT: ::core::marker::Sync [+ ::core::marker::Send] + 'static`, with
    `Send` iff some function takes the dependency by value,
  * is for `::entrait::Impl<EntraitT>` iff the invocation is mockable, else for `EntraitT` itself,
  * has, iff at least one bound is declared on a dependency parameter, one predicate
    `Self: B₁ + … + Bₙ` whose bounds are exactly the bounds declared on the dependency parameters
    of all functions — inline, in where clauses and as `impl A + B` — as a multiset, and
  * otherwise only where-predicates the user wrote.
  With `no_deps` there is no `Self:` predicate at all.
-/
namespace Entrait.C04
open Entrait

theorem zipAll_and {α β : Type} (f g : α → β → Bool) :
    ∀ (as : List α) (bs : List β), zipAll f as bs = true → zipAll g as bs = true →
      zipAll (fun a b => f a b && g a b) as bs = true :=
  fun as bs h1 h2 => by rw [zipAll_and_eq, h1, h2]; rfl

theorem implHeader_ok (o : Opts) (mode : InputMode) (subAttrs : List Attr) (traitRef : Toks)
    (sigs : List Sig) (fns : List TraitFn) (tg : TraitGenerics) (depMode : DepMode) (im : GenImpl)
    (han : analyzeFns .selfRef o sigs {} = .ok (fns, tg))
    (hdm : detectDepMode mode fns = .ok depMode)
    (him : genImplBlock o traitRef .none tg mode depMode subAttrs fns = .ok im) :
    fnImplHeaderOk o sigs im = true := by
  cases genImplBlock_ok him
  exact header_fnmod han hdm rfl rfl rfl

theorem T_C04 (v : Variant) (attr : Toks) (item : Item) (out : Out)
    (h : expand v attr item = .ok out) : P_C04 v attr item out.view = true := by
  by_cases hm : item.inputMode = .singleFn ∨ item.inputMode = .module
  · obtain ⟨a, tg, depMode, im, h1, d, _, him⟩ := expand_fnmod_ok h hm
    obtain ⟨hdm, hp, hs, hw⟩ := d.header_eq
    have := header_fnmod d.analysis hdm hp hs hw
    obtain ⟨f, rfl⟩ | ⟨m, rfl⟩ := Item.fnmod_cases hm <;>
      simpa [P_C04, effectiveOpts, h1, mainImpl?, him] using this
  · obtain ⟨t, rfl⟩ | ⟨m, rfl⟩ := Item.not_fnmod_cases hm <;> rfl

/-- `Examples.fnFoo` declares `D: A` inline and `D: B` in its where clause -/
example :
    (match expand .plain [i "Foo"] (.fn Examples.fnFoo) with
     | .ok out => (implsOf out.view.items).map (·.preds)
     | _ => []) = [[.ty [] selfTy_ [[i "A"], [i "B"]] false]] := by decide +kernel

end Entrait.C04
