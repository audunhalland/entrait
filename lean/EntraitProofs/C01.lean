import EntraitProofs.FnMode
import EntraitProofs.Examples
/-
  C01 — calling a generated trait method is calling the original function.

  `T_C01`: for every fn / mod input the model accepts, the generated impl has exactly one method
  per source function, in order, and the body of the method generated for `f` parses as the call
      f([self,] p₁, …, pₙ)[.await]
  where `self` is passed iff the invocation is not `no_deps`, `p₁ … pₙ` are the method's own
  parameter identifiers in declared order — plain, pairwise distinct (given distinct source
  bindings) and different from `f`, so none of them shadows the callee — one per user parameter,
  and `.await` is present iff the source function is async.
-/
namespace Entrait.C01
open Entrait

theorem parseIdentArgs_join : ∀ (names : List String),
    parseIdentArgs (joinSep [p ','] (names.map fun a => [i a])) = some names
  | [] => rfl
  | [a] => rfl
  | a :: b :: rest => by
      have ih := parseIdentArgs_join (b :: rest)
      simp only [List.map_cons, joinSep, i, p] at ih ⊢
      simp [parseIdentArgs, ih]

theorem parseIdentArgs_self_join (names : List String) :
    parseIdentArgs ([i "self", p ','] ++ joinSep [p ','] (names.map fun a => [i a])) = some ("self" :: names) := by
  have ih := parseIdentArgs_join names
  simp only [i, p] at ih ⊢
  simp [parseIdentArgs, ih]

/-- what `selfCommaOf .none tf` parses to -/
def selfArgs (tf : TraitFn) : List String :=
  match tf.deps, tf.sig.inputs with
  | .noDeps, _ => []
  | _, [] => []
  | _, _ :: _ => ["self"]

theorem parseCall_call (sc : Bool) (f : String) {args : Toks} {names : List String} (aw : Bool)
    (h : parseIdentArgs args = some names) :
    parseCall ((if sc then [i "Self"] ++ pathSep else []) ++ [i f, parens args] ++
        (if aw then [p '.', i "await"] else [])) =
      some { selfScope := sc, callee := f, args := names, await := aw } := by
  cases sc <;> cases aw <;> simp [parseCall, parseAwait, i, p, parens, pathSep, h]

theorem parseCall_delegating (mode : InputMode) (ind : ImplIndirection) (tf : TraitFn) :
    parseCall (delegatingBody mode ind tf) =
      some { selfScope := mode == .implBlock, callee := tf.sig.ident,
             args := (if ind.isNone then selfArgs tf else []) ++ paramIdents tf.sig.inputs,
             await := tf.originallyAsync } := by
  refine parseCall_call _ _ _ ?_
  have hc : selfCommaOf ind tf = [] ∧ (if ind.isNone then selfArgs tf else []) = [] ∨
      selfCommaOf ind tf = [i "self", p ','] ∧ (if ind.isNone then selfArgs tf else []) = ["self"] := by
    unfold selfCommaOf selfArgs
    cases ind <;> cases tf.deps <;> cases tf.sig.inputs <;> first | exact .inl ⟨rfl, rfl⟩ | exact .inr ⟨rfl, rfl⟩
  rcases hc with ⟨hc, hs⟩ | ⟨hc, hs⟩ <;> rw [hc, hs]
  · exact parseIdentArgs_join _
  · exact parseIdentArgs_self_join _

theorem parseCall_delegatingBody (mode : InputMode) (hm : mode ≠ .implBlock) (tf : TraitFn) :
    parseCall (delegatingBody mode .none tf) =
      some { selfScope := false, callee := tf.sig.ident,
             args := selfArgs tf ++ paramIdents tf.sig.inputs, await := tf.originallyAsync } := by
  rw [parseCall_delegating, beq_false_of_ne hm]
  rfl

theorem paramIdents_cons_recv (a r m c) (xs : List FnArg) :
    paramIdents (.recv a r m c :: xs) = paramIdents xs := rfl

theorem allPlain_cons_recv (a r m c) (xs : List FnArg) :
    allPlain (.recv a r m c :: xs) = allPlain xs := rfl

theorem selfArgs_eq {opts : Opts} {sig : Sig} {tf : TraitFn} (hs : FnModeSpec opts sig tf) :
    selfArgs tf = if opts.noDepsValue then [] else ["self"] := by
  obtain ⟨r, hin⟩ := hs.inputs
  have := hs.depsNoDeps
  unfold selfArgs
  cases hn : opts.noDepsValue <;> cases hd : tf.deps <;> simp_all

theorem methodCallsFn_ok (opts : Opts) (mode : InputMode) (hm : mode ≠ .implBlock) (src : FnItem) (tf : TraitFn)
    (hs : FnModeSpec opts src.sig tf) (hid : identOk src.sig.ident = true) (as : List Attr := []) :
    methodCallsFn opts.noDepsValue false src (.fn as tf.sig (some (delegatingBody mode .none tf))) = true := by
  refine (methodCallsFn_fn (parseCall_delegatingBody mode hm tf)).mpr
    ⟨hs.ident, rfl, rfl, hs.origAsync, by simp [selfArgs_eq hs], ?_⟩
  rw [hs.ident]
  exact (hs.names hid).method (sc := false) (lt := none)

theorem T_C01 (v : Variant) (attr : Toks) (item : Item) (out : Out)
    (hid : item.identsOk = true) (h : expand v attr item = .ok out) :
    P_C01 v attr item out.view = true := by
  by_cases hm : item.inputMode = .singleFn ∨ item.inputMode = .module
  · obtain ⟨a, tg, depMode, im, h1, d, _, him⟩ := expand_fnmod_ok h hm
    have hmode : item.inputMode ≠ .implBlock := by rintro hc; simp [hc] at hm
    have hall : zipAll (methodCallsFn (v.apply a.opts).noDepsValue false) item.sourceFns im.members = true := by
      rw [d.members_eq, zipAll_map_self, List.all_eq_true]
      exact fun f hf =>
        methodCallsFn_ok (v.apply a.opts) _ hmode f _ (fnModeSpec (d.analyzedFn hf)) (Item.identOk_of_mem hid hf).1 _
    obtain ⟨f, rfl⟩ | ⟨m, rfl⟩ := Item.fnmod_cases hm <;>
      simpa only [P_C01, mainImpl?, him, List.getLast?_singleton, effectiveOpts, h1, optsNoDeps] using hall
  · obtain ⟨t, rfl⟩ | ⟨m, rfl⟩ := Item.not_fnmod_cases hm <;> rfl

/-- `#[entrait(Foo)]` on `Examples.fnFoo`, which has a destructuring and a `mut` parameter -/
example :
    (match expand .plain [i "Foo"] (.fn Examples.fnFoo) with
     | .ok out => (Item.fn Examples.fnFoo).identsOk && P_C01 .plain [i "Foo"] (.fn Examples.fnFoo) out.view
     | _ => false) = true := by decide +kernel

end Entrait.C01
