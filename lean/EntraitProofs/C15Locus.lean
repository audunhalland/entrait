import EntraitProofs.C15
import EntraitProofs.Slices
/-
  C15, "… at the offending tokens".

  `T_C15_at`: whenever a documented misuse is present (`specMisuseLoci` lists each with the leaf
  range to blame), the model answers with one of them — message *and* place (`diagLocus`).
  The slice theorems of `Slices.lean` say what those ranges are: the function's name, its
  receiver, the dependency type proper, the unsupported trait member.
-/
namespace Entrait.C15Locus
open Entrait

/-- **C15, where**: when documented misuses are present, the model answers with one of them and
    blames the tokens the specification lists for it -/
theorem T_C15_at (v : Variant) (attr : Toks) (item : Item) (x : String × Locus) (xs : List (String × Locus))
    (h : specMisuseLoci attr item = some (x :: xs)) :
    ∃ ml ∈ x :: xs, expand v attr item = .diag ml.1 ∧ diagLocus v attr item = some ml.2 := by
  cases C15.front_cases v attr item with
  | silent e _ _ hsl => rw [hsl] at h; cases h
  | early m ol hx hl _ hsl =>
    rw [hsl, Option.some.injEq] at h
    cases ol with
    | none => cases h
    | some l => exact ⟨(m, l), h ▸ List.mem_cons_self, hx, hl⟩
  | fns smode hm kind opts bs as traitRef ind subAttrs k hx hl _ hsl =>
    rw [hsl, Option.some.injEq] at h
    rcases C15.fnsTail_spec smode hm kind opts bs as traitRef ind subAttrs k with ⟨hnil, _⟩ | ⟨hn, ml, hml, hd, hloc⟩
    · rw [hnil] at h; cases h
    · exact ⟨ml, h ▸ hml, hx ▸ hd, hl hn _ hloc⟩
  | trait t a hi ha =>
    subst hi
    simp only [specMisuseLoci, ha, Option.some.injEq] at h
    rcases C15.expandTrait_spec v t ha with ⟨hD, hO, _⟩ | ⟨ml, hml, hd, hloc⟩
    · rw [hD, hO] at h; cases h
    · exact ⟨ml, h ▸ hml, hd, hloc⟩

/-! ### what the item-side places are: slices of the input -/

/-- the tokens a signature-level misuse of `s` is blamed on: the function's name if there is no
    parameter to blame, the receiver, or the dependency type proper -/
def Offending (s : Sig) (node : Toks) : Prop :=
  (s.inputs = [] ∧ node = [i s.ident]) ∨
  (∃ a r m c rest, s.inputs = .recv a r m c :: rest ∧ node = (FnArg.recv a r m c).print) ∨
  (∃ attrs pat ty rest, s.inputs = .typed attrs pat ty :: rest ∧ node = ty.core.print)

theorem depTypeAt_slice (s : Sig) (o n : Nat) (h : s.depTypeAt = some (o, n)) :
    ∃ node, At s.print o node ∧ n = flatLen node ∧ Offending s node := by
  obtain ⟨attrs, pat, ty, rest, hi, hat, hn⟩ := Sig.depType_at h
  exact ⟨_, hat, hn, .inr (.inr ⟨attrs, pat, ty, rest, hi, rfl⟩)⟩

theorem depsErrorAt_slice (s : Sig) (o n : Nat) (h : s.depsErrorAt = some (o, n)) :
    ∃ node, At s.print o node ∧ n = flatLen node ∧ Offending s node := by
  unfold Sig.depsErrorAt at h
  split at h
  · rename_i hi
    cases h
    exact ⟨[i s.ident], Sig.ident_at s, by simp, Or.inl ⟨hi, rfl⟩⟩
  · rename_i a r m c rest hi
    cases h
    exact ⟨_, Sig.arg0_at s _ rest hi, rfl, Or.inr (Or.inl ⟨a, r, m, c, rest, hi, rfl⟩)⟩
  · split at h <;> first | exact depTypeAt_slice s o n h | cases h

theorem locAt_slice {s : Sig} {b : Nat} {r : Option (Nat × Nat)} {l : Locus} (hr : r = s.depsErrorAt ∨ r = s.depTypeAt)
    (h : locAt b r = some l) : ∃ o node, l = .item (b + o) (flatLen node) ∧ At s.print o node ∧ Offending s node := by
  cases r with
  | none => cases h
  | some r =>
    cases h
    obtain ⟨node, hat, hn, hoff⟩ := hr.elim (fun e => depsErrorAt_slice s r.1 r.2 e.symm) (fun e => depTypeAt_slice s r.1 r.2 e.symm)
    exact ⟨r.1, node, hn ▸ rfl, hat, hoff⟩

theorem sigMisusesAt_slice (nd : Bool) (mode : Mode) (b : Nat) (s : Sig) (m : String) (l : Locus)
    (h : (m, l) ∈ sigMisusesAt nd mode (b, s)) :
    ∃ o node, l = .item (b + o) (flatLen node) ∧ At s.print o node ∧ Offending s node := by
  cases nd with
  | true => simp [sigMisusesAt] at h
  | false =>
    cases hde : depsError s with
    | some m' =>
      obtain ⟨l', hl', hL⟩ := C15.sigMisusesAt_of_error (q := (b, s)) mode hde
      rw [hL] at h
      cases List.mem_singleton.mp h
      exact locAt_slice (.inl rfl) hl'
    | none =>
      rw [C15.sigMisusesAt_of_ok (q := (b, s)) mode hde] at h
      split at h
      · simp only [List.mem_flatMap, List.mem_map, Option.mem_toList, Prod.mk.injEq] at h
        obtain ⟨_, _, l', hl', _, rfl⟩ := h
        exact locAt_slice (.inr rfl) hl'
      · cases h

/-- **C15, what the places are**: every item-side place the specification lists is a slice of the
    item's tokens, and the slice holds exactly the offending tokens — the `unsafe` of an `unsafe mod`,
    the name / receiver / dependency type of one of the functions the macro analyses, or an
    unsupported trait member as a whole -/
theorem T_C15_where (attr : Toks) (item : Item) (hst : BodyStable item) (l : List (String × Locus))
    (h : specMisuseLoci attr item = some l) (m : String) (n len : Nat) (hm : (m, Locus.item n len) ∈ l) :
    ∃ node, At item.print n node ∧ len = flatLen node ∧
      (node = [i "unsafe"] ∨ (∃ f ∈ item.sourceFns, Offending f.sig node) ∨
       (∃ t ts, item = .trait t ∧ TraitMember.other ts ∈ t.members ∧ node = ts)) := by
  cases C15.front_cases .plain attr item with
  | silent e _ _ hsl => rw [hsl] at h; cases h
  | early m' ol _ _ _ hsl hw =>
    rw [hsl, Option.some.injEq] at h
    subst h
    have hol : ol = some (.item n len) := by
      cases ol with
      | none => cases hm
      | some l' => simp at hm; rw [hm.2]
    obtain ⟨hat, rfl⟩ := hw n len hol
    exact ⟨[i "unsafe"], hat, by simp, Or.inl rfl⟩
  | fns smode _ kind opts bs _ _ _ _ _ _ _ _ hsl hw =>
    rw [hsl, Option.some.injEq] at h
    subst h
    obtain ⟨q, hq, hmem⟩ := List.mem_flatMap.mp hm
    obtain ⟨o, node, hl, hAt, hoff⟩ := sigMisusesAt_slice _ _ q.1 q.2 m _ hmem
    obtain ⟨hq1, f, hf, hfs⟩ := hw hst q hq
    simp only [Locus.item.injEq] at hl
    exact ⟨node, hl.1 ▸ hq1.trans hAt, hl.2, Or.inr (Or.inl ⟨f, hf, hfs ▸ hoff⟩)⟩
  | trait t a hi ha =>
    subst hi
    simp only [specMisuseLoci, ha, Option.some.injEq] at h
    subst h
    rcases List.mem_append.mp hm with hd | ho
    · exfalso
      unfold delegationMisusesAt at hd
      split at hd <;> simp at hd
    · simp only [List.mem_map, Prod.mk.injEq] at ho
      obtain ⟨l', hl', _, rfl⟩ := ho
      obtain ⟨k, ts, hl, hmem, hat⟩ := otherMemberLoci_slice hl'
      simp only [Locus.item.injEq] at hl
      have hp : (Item.trait t).print = t.headToks ++ [braces (t.members.flatMap TraitMember.print)] := rfl
      exact ⟨ts, hp ▸ hl.1 ▸ hat.in_group t.headToks .brace, hl.2, Or.inr (Or.inr ⟨t, ts, rfl, hmem, rfl⟩)⟩

/-! ### non-vacuity: concrete misuses with their places, by evaluation -/

/-- `#[entrait(Foo, frobnicate)] fn foo<D>(d: &D) {}`: the unknown option is blamed on its identifier -/
example : specMisuseLoci [i "Foo", p ',', i "frobnicate"]
      (.fn { sig := { ident := "foo", generics := { params := [.ty [] "D" [] false none] },
                      inputs := [.typed [] (.ident false false "d" none) (.ref_ none false (.path false false 1 "D" [i "D"]))] },
             body := [braces []] })
    = some [(unknownOpt "frobnicate" |> fun | .diag m => m | .syn => "", .attr 2 1)] := by decide +kernel

/-- `#[entrait(Foo)] pub fn foo() {}`: no dependency parameter — blamed on the name `foo` (leaf 2 of `pub fn foo ( ) { }`) -/
example : specMisuseLoci [i "Foo"] (.fn { vis := [i "pub"], sig := { ident := "foo" }, body := [braces []] })
    = some [(msgNoReceiver, .item 2 1)] := by rfl

example : diagLocus .plain [i "Foo"] (.fn { vis := [i "pub"], sig := { ident := "foo" }, body := [braces []] })
    = some (.item 2 1) := by decide +kernel

/-- and that leaf is the identifier `foo` -/
example : ((TT.flattenList (Item.fn { vis := [i "pub"], sig := { ident := "foo" }, body := [braces []] }).print).drop 2).take 1
    = [Leaf.ident "foo"] := by rfl

/-- `#[entrait(FooImpl)] trait Foo { fn a(&self); }`: nothing to blame but the invocation -/
example : specMisuseLoci [i "FooImpl"]
      (.trait { ident := "Foo", members := [.fn { sig := { ident := "a", inputs := [.recv [] (some none) false none] } }] })
    = some [(msgMissingDelegateBy, .callSite)] := by decide +kernel

end Entrait.C15Locus
