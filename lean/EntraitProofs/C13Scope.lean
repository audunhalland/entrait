import EntraitModel.Props
/-
  C08 / C13, read semantically: what a visibility *means* depends on where it is written.

  `scopeOf vis d` is the scope a visibility qualifier denotes for an item declared in a module at
  nesting depth `d` (the crate root has depth 0): everywhere, the crate, the ancestor module at some
  depth on the path to the item (`pub(self)` / private: `d`; `pub(super)`: `d - 1`;
  `pub(in super::super)`: `d - 2`, possibly continued by a path), or a crate-rooted path.

  The generated trait of an entraited module lives one level *below* the place where the attribute —
  and with it the requested visibility — is written.  `T_C13_scope`: for every requested
  visibility, the visibility the trait is given (`visFromInside`, which `T_C13` / `T_C08` prove the
  model emits, and which the correspondence compares with the real macro) denotes at depth `d + 1`
  exactly the scope the requested one denotes at depth `d`: "as if it had been declared next to the
  module" — never wider, never narrower.  (Before fix c1f44e0 the visibility was copied verbatim:
  `scope_verbatim_differs` shows that this changes the scope.)
-/
namespace Entrait.C13
open Entrait

inductive Scope
  | world
  | crate_
  | upTo (depth : Nat) (thenPath : Toks)     -- the ancestor at `depth` (then, for `pub(in super::x)`, a path)
  | absolute (path : Toks)
  | invalid                                    -- more `super`s than there are ancestors
  deriving DecidableEq, Repr

/-- what follows `self` / `super` in a relative path: `(:: super)*`, then the rest -/
def afterHead : Toks → Nat × Toks
  | .punct ':' :: .punct ':' :: .ident "super" :: rest =>
      ((afterHead rest).1 + 1, (afterHead rest).2)
  | ts => (0, ts)

def upBy (d n : Nat) (rest : Toks) : Scope := if n ≤ d then .upTo (d - n) rest else .invalid

/-- the scope a visibility denotes for an item declared at module depth `d` -/
def scopeOf (vis : Toks) (d : Nat) : Scope :=
  match vis with
  | [] => .upTo d []
  | [.ident "pub"] => .world
  | [.ident "pub", .group .paren [.ident "crate"]] => .crate_
  | [.ident "pub", .group .paren [.ident "self"]] => .upTo d []
  | [.ident "pub", .group .paren [.ident "super"]] => upBy d 1 []
  | [.ident "pub", .group .paren (.ident "in" :: .ident "self" :: rest)] => upBy d (afterHead rest).1 (afterHead rest).2
  | [.ident "pub", .group .paren (.ident "in" :: .ident "super" :: rest)] => upBy d ((afterHead rest).1 + 1) (afterHead rest).2
  | [.ident "pub", .group .paren (.ident "in" :: path)] => .absolute path
  | other => .absolute other

theorem upBy_succ (d n : Nat) (rest : Toks) : upBy (d + 1) (n + 1) rest = upBy d n rest := by
  simp only [upBy, Nat.add_le_add_iff_right, Nat.add_sub_add_right]

theorem upBy_zero (d : Nat) (rest : Toks) : upBy d 0 rest = .upTo d rest := by simp [upBy]

theorem afterHead_super (rest : Toks) :
    afterHead (.punct ':' :: .punct ':' :: .ident "super" :: rest) = ((afterHead rest).1 + 1, (afterHead rest).2) := by
  simp [afterHead]

/-! `scopeOf` on the relative shapes.  Each is one evaluation of the match, and that is dear (every string pattern is
    a `String.decEq` on literals), so it is done once per shape here and `T_C13_scope` only rewrites.  `by rfl` and
    not the term: for the term `rfl` Lean evaluates a second time, to see whether `dsimp` may use the equation. -/

theorem scopeOf_self (d : Nat) : scopeOf [.ident "pub", .group .paren [.ident "self"]] d = .upTo d [] := by rfl

theorem scopeOf_super (d : Nat) : scopeOf [.ident "pub", .group .paren [.ident "super"]] d = upBy d 1 [] := by rfl

theorem scopeOf_in_self (rest : Toks) (d : Nat) :
    scopeOf [.ident "pub", .group .paren (.ident "in" :: .ident "self" :: rest)] d =
      upBy d (afterHead rest).1 (afterHead rest).2 := by rfl

theorem scopeOf_in_super (rest : Toks) (d : Nat) :
    scopeOf [.ident "pub", .group .paren (.ident "in" :: .ident "super" :: rest)] d =
      upBy d ((afterHead rest).1 + 1) (afterHead rest).2 := by rfl

/-- **the trait's visibility means, one level further in, what the requested one means outside** -/
theorem T_C13_scope (vis : Toks) (d : Nat) : scopeOf (visFromInside vis) (d + 1) = scopeOf vis d := by
  unfold visFromInside i parens p
  split
  · -- private: `pub(super)` inside
    exact (scopeOf_super _).trans ((upBy_succ ..).trans (upBy_zero ..))
  · -- pub(self) → pub(in super)
    rw [scopeOf_in_super, scopeOf_self]
    exact (upBy_succ ..).trans (upBy_zero ..)
  · -- pub(super) → pub(in super::super)
    rw [scopeOf_in_super, scopeOf_super, afterHead_super, upBy_succ]
    rfl
  · -- pub(in self ..) → pub(in super ..)
    rw [scopeOf_in_super, scopeOf_in_self, upBy_succ]
  · -- pub(in super ..) → pub(in super::super ..)
    rw [scopeOf_in_super, scopeOf_in_super, afterHead_super, upBy_succ]
  · -- everything else (`pub`, `pub(crate)`, crate-rooted paths) does not depend on the depth
    rename_i h1 h2 h3 h4 h5
    unfold scopeOf
    split
    · exact absurd rfl h1
    · rfl
    · rfl
    · exact absurd rfl h2
    · exact absurd rfl h3
    · rename_i rest; exact absurd rfl (h4 rest)
    · rename_i rest; exact absurd rfl (h5 rest)
    · rfl
    · rfl

/-- copying a relative visibility verbatim (the behaviour before fix c1f44e0) changes its meaning -/
theorem scope_verbatim_differs :
    scopeOf [i "pub", parens [i "super"]] 2 ≠ scopeOf [i "pub", parens [i "super"]] 1 := by decide +kernel

example : scopeOf (visFromInside [i "pub", parens [i "super"]]) 3 = .upTo 1 [] := by decide +kernel
example : scopeOf (visFromInside []) 1 = .upTo 0 [] := by decide +kernel
example : scopeOf (visFromInside [i "pub", parens [i "crate"]]) 5 = .crate_ := by decide +kernel

end Entrait.C13
