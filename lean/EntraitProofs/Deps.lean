import EntraitModel.Props
/-
  The dependency analysis (`analyze_fn_deps`, `extract_deps_from_type`, `find_deps_generic_bounds`) as
  one equation: `analyzeFnDeps` fails with the message `depsError` names, and otherwise returns the
  dependency the specification reads off the signature (`Sig.specDeps`) and extends the trait's generics
  by `Sig.lifted`.  Everything the property theorems need about the analysis is read off that equation.
-/
namespace Entrait

def C03.isDepParam (f : String) (q : GParam) : Bool := q.isType && q.name == f

open C03 (isDepParam)

theorem findTypeParam_spec (f : String) : ∀ (ps : List GParam) (k : Nat),
    (findTypeParam f ps k = none ∧ ∀ q ∈ ps, isDepParam f q = false) ∨
    ∃ pre a direct bt d post, ps = pre ++ .ty a f direct bt d :: post ∧ (∀ q ∈ pre, isDepParam f q = false) ∧
      findTypeParam f ps k = some (k + pre.length, direct)
  | [], _ => .inl ⟨rfl, by simp⟩
  | q :: rest, k => by
      cases hq : isDepParam f q
      · have hstep : findTypeParam f (q :: rest) k = findTypeParam f rest (k + 1) := by
          cases q <;> simp_all [findTypeParam, isDepParam, GParam.isType, GParam.name]
        rw [hstep]
        rcases findTypeParam_spec f rest (k + 1) with ⟨h, hall⟩ | ⟨pre, a, direct, bt, d, post, rfl, hpre, h⟩
        · exact .inl ⟨h, List.forall_mem_cons.mpr ⟨hq, hall⟩⟩
        · exact .inr ⟨q :: pre, a, direct, bt, d, post, rfl, List.forall_mem_cons.mpr ⟨hq, hpre⟩,
            by rw [h, List.length_cons, Nat.add_right_comm, Nat.add_assoc]⟩
      · cases q <;> simp [isDepParam, GParam.isType, GParam.name] at hq
        subst hq
        exact .inr ⟨[], _, _, _, _, rest, rfl, by simp, by simp [findTypeParam]⟩

theorem dropIdx_append_cons {α : Type} (x : α) (post : List α) : ∀ pre : List α,
    dropIdx (pre ++ x :: post) pre.length = pre ++ post
  | [] => rfl
  | y :: pre => by simp [dropIdx, dropIdx_append_cons x post pre]

theorem findTypeParam_dropIdx {f : String} {ps : List GParam} {k idx : Nat} {direct : List Toks}
    (h : findTypeParam f ps k = some (idx, direct)) : dropIdx ps (idx - k) = ps.eraseP (isDepParam f) := by
  rcases findTypeParam_spec f ps k with ⟨h', _⟩ | ⟨pre, a, direct', bt, d, post, rfl, hpre, h'⟩ <;> rw [h'] at h
  · cases h
  · cases h
    rw [Nat.add_sub_cancel_left, dropIdx_append_cons, List.eraseP_append_right _ (by simpa using hpre)]
    simp [isDepParam, GParam.isType, GParam.name]

/-- with pairwise different type-parameter names, erasing the first parameter named `f` erases all of them -/
theorem not_isDepParam_of_mem_eraseP {f : String} {q : GParam} : ∀ {ps : List GParam},
    nodup ((ps.filter GParam.isType).map GParam.name) = true → q ∈ ps.eraseP (isDepParam f) → isDepParam f q = false
  | x :: rest, hnd, hq => by
      have hrest : nodup ((rest.filter GParam.isType).map GParam.name) = true := by
        cases hx : x.isType <;> simp only [List.filter_cons, hx, Bool.false_eq_true, if_false, if_true, List.map_cons, nodup, Bool.and_eq_true] at hnd
        · exact hnd
        · exact hnd.2
      rw [List.eraseP_cons] at hq
      cases hx : isDepParam f x <;> rw [hx] at hq
      · rcases List.mem_cons.mp hq with rfl | hq
        · exact hx
        · exact not_isDepParam_of_mem_eraseP hrest hq
      · rw [Bool.eq_false_iff]
        intro hc
        simp only [isDepParam, Bool.and_eq_true, beq_iff_eq] at hx hc
        simp only [List.filter_cons, hx.1, if_true, List.map_cons, nodup, Bool.and_eq_true, Bool.not_eq_true'] at hnd
        have hmem : x.name ∈ (rest.filter GParam.isType).map GParam.name :=
          List.mem_map.mpr ⟨q, List.mem_filter.mpr ⟨hq, hc.1⟩, hc.2.trans hx.2.symm⟩
        rw [List.contains_iff_mem.mpr hmem] at hnd
        cases hnd.1

/-- a where-predicate on a bare single-segment path (`T: ..`): the walk keeps these off the trait -/
def WherePred.onParam : WherePred → Bool
  | .ty _ (.path false false 1 _ _) _ _ => true
  | _ => false

theorem walkWhere_eq (dep : String) : ∀ preds : List WherePred,
    walkWhere dep preds = (preds.flatMap (depPredBounds dep), preds.filter (fun q => !q.onParam))
  | [] => rfl
  | pred :: rest => by
      simp only [walkWhere, walkWhere_eq dep rest, List.flatMap_cons, List.filter_cons]
      generalize rest.flatMap (depPredBounds dep) = bs
      generalize rest.filter _ = lifted
      unfold WherePred.onParam depPredBounds
      split
      · rename_i qself leading nseg first _ bounds _
        cases qself <;> cases leading <;> try rfl
        rcases nseg with _ | _ | n <;> try rfl
        cases hf : first == dep <;> simp [hf]
      · rename_i hne
        split
        · exact absurd rfl (hne _ _ _ _ _ _ _ _)
        · simp

/-- the where-clause walk collects exactly the bounds of predicates on the dependency identifier -/
theorem walkWhere_fst (dep : String) (preds : List WherePred) :
    (walkWhere dep preds).1 = preds.flatMap (depPredBounds dep) := by
  rw [walkWhere_eq]

/-! ### the analysis of one signature, as a function of the signature -/

def TraitGenerics.add (tg : TraitGenerics) (l : List GParam × List WherePred) : TraitGenerics :=
  { tg with params := tg.params ++ l.1, preds := tg.preds ++ l.2 }

/-- the type parameter a dependency type (without references) names -/
def Ty.depName (g : Generics) : Ty → Option String
  | .path false false 1 f _ => if g.params.any (fun q => q.isType && q.name == f) then some f else none
  | _ => none

/-- the generic parameters and where-predicates a function with the given dependency parameter name contributes to
    the trait: all but the lifetimes, the dependency's own type parameter and (with a named dependency) the
    predicates on type parameters; no predicate that mentions one of the function's lifetimes -/
def Generics.lifted (g : Generics) : Option String → List GParam × List WherePred
  | none => (g.params.filter (fun q => !q.isLifetime), g.preds.filter (liftable g))
  | some f => ((g.params.eraseP (isDepParam f)).filter (fun q => !q.isLifetime),
               (g.preds.filter (fun q => !q.onParam)).filter (liftable g))

/-- what `extractDepsFromType` returns for a type without outer references -/
def Ty.coreDeps (g : Generics) (ty : Ty) : FnDeps :=
  if ty.specConcrete g then .concrete ty else .generic (ty.depName g) (ty.specDepBounds g)

theorem findDepsGenericBounds_eq (g : Generics) (f : String) (tg : TraitGenerics) :
    findDepsGenericBounds g f tg =
      match g.params.find? (fun q => q.isType && q.name == f) with
      | some (.ty _ _ inline _ _) =>
          some (.generic (some f) (inline ++ g.preds.flatMap (depPredBounds f)), tg.add (g.lifted (some f)))
      | _ => none := by
  unfold findDepsGenericBounds
  have hnone {ps : List GParam} (h : ∀ q ∈ ps, isDepParam f q = false) : ps.find? (fun q => q.isType && q.name == f) = none :=
    List.find?_eq_none.mpr fun q hq => Bool.eq_false_iff.mp (h q hq)
  rcases findTypeParam_spec f g.params 0 with ⟨h, hall⟩ | ⟨pre, a, direct, bt, d, post, hps, hpre, h⟩
  · rw [h, hnone hall]
  · have hfind : g.params.find? (fun q => q.isType && q.name == f) = some (.ty a f direct bt d) := by
      rw [hps, List.find?_append, hnone hpre, Option.none_or]
      exact List.find?_cons_of_pos (beq_self_eq_true f)
    have hdrop := findTypeParam_dropIdx h
    rw [h, hfind, walkWhere_eq, Generics.lifted, ← hdrop]
    rfl

theorem extractDeps_eq (g : Generics) (tg : TraitGenerics) : ∀ ty : Ty,
    extractDepsFromType g tg ty =
      match tyMisuse ty.stripRefs with
      | some m => .error (.diag m)
      | none => .ok (ty.stripRefs.coreDeps g, tg.add (g.lifted (ty.stripRefs.depName g)))
  | .ref_ _ _ e => by rw [extractDepsFromType, extractDeps_eq g tg e]; rfl
  | .paren e => by rw [extractDepsFromType, extractDeps_eq g tg e]; rfl
  | .implTrait _ _ => rfl
  | .other _ => rfl
  | .path true _ _ _ _ => rfl
  | .path false true _ _ _ => rfl
  | .path false false 1 f toks => by
      simp only [extractDepsFromType, findDepsGenericBounds_eq, Ty.stripRefs, tyMisuse, Ty.coreDeps, Ty.depName,
        Ty.specConcrete, Ty.specDepBounds, ← List.isSome_find?]
      rcases hfind : g.params.find? (fun q => q.isType && q.name == f) with _ | q <;> rw [hfind]
      · simp [Generics.lifted, depsWithGenerics, TraitGenerics.add]
      · have hq : (q.isType && q.name == f) = true := List.find?_some (p := fun q : GParam => q.isType && q.name == f) hfind
        rcases q with _ | _ | _ <;> simp [GParam.isType] at hq
        simp
  | .path false false 0 f toks => rfl
  | .path false false (n + 2) f toks => rfl

/-- the dependency the specification reads off a signature -/
def Sig.specDeps (nd : Bool) (s : Sig) : FnDeps :=
  if nd then .noDeps
  else match s.inputs with
    | .typed _ _ ty :: _ => ty.stripRefs.coreDeps s.generics
    | _ => .noDeps

/-- what the analysis of a signature adds to the trait's generics -/
def Sig.lifted (nd : Bool) (s : Sig) : List GParam × List WherePred :=
  s.generics.lifted (if nd then none else s.depGenericName)

theorem analyzeFnDeps_eq (s : Sig) (opts : Opts) (tg : TraitGenerics) :
    analyzeFnDeps s opts tg =
      match (if opts.noDepsValue then none else depsError s) with
      | some m => .error (.diag m)
      | none => .ok (s.specDeps opts.noDepsValue, tg.add (s.lifted opts.noDepsValue)) := by
  unfold analyzeFnDeps Sig.specDeps Sig.lifted depsError Sig.depGenericName
  cases opts.noDepsValue
  · rcases s.inputs with _ | ⟨_ | ⟨_, _, ty⟩, _⟩ <;> simp only [Bool.false_eq_true, if_false]
    rw [extractDeps_eq]
    cases tyMisuse ty.stripRefs <;> simp only []
    rcases ty.stripRefs with _ | ⟨_ | _, _ | _, _ | _ | _, _, _⟩ | _ | _ | _ <;> rfl
  · rfl

theorem analyzeFnDeps_ok {s : Sig} {opts : Opts} {tg tg' : TraitGenerics} {deps : FnDeps}
    (h : analyzeFnDeps s opts tg = .ok (deps, tg')) :
    deps = s.specDeps opts.noDepsValue ∧ tg' = tg.add (s.lifted opts.noDepsValue) := by
  rw [analyzeFnDeps_eq] at h
  split at h <;> cases h
  exact ⟨rfl, rfl⟩

theorem specDeps_typed {s : Sig} {a : List Attr} {pt : Pat} {ty : Ty} {rest : List FnArg}
    (hin : s.inputs = .typed a pt ty :: rest) :
    s.specDeps false =
      if s.depIsConcrete then .concrete ty.stripRefs else .generic s.depGenericName s.declaredDepBounds := by
  simp only [Sig.specDeps, Sig.depIsConcrete, Sig.depGenericName, Sig.declaredDepBounds, hin, Ty.coreDeps,
    Bool.false_eq_true, if_false]
  rcases ty.stripRefs with _ | ⟨_ | _, _ | _, _ | _ | _, _, _⟩ | _ | _ | _ <;> rfl

theorem analyzeFnDeps_noDeps {sig : Sig} {opts : Opts} {tg tg' : TraitGenerics} {deps : FnDeps}
    (h : analyzeFnDeps sig opts tg = .ok (deps, tg')) (hn : opts.noDepsValue = true) : deps = .noDeps := by
  rw [(analyzeFnDeps_ok h).1, hn]; rfl

theorem analyzeFnDeps_deps {sig : Sig} {opts : Opts} {tg tg' : TraitGenerics} {deps : FnDeps}
    (h : analyzeFnDeps sig opts tg = .ok (deps, tg')) (hn : opts.noDepsValue = false) :
    deps ≠ .noDeps ∧ ∃ a pt ty rest, sig.inputs = .typed a pt ty :: rest := by
  obtain ⟨rfl, _⟩ := analyzeFnDeps_ok h
  rw [analyzeFnDeps_eq, hn, depsError] at h
  rcases hin : sig.inputs with _ | ⟨_ | ⟨a, pt, ty⟩, rest⟩ <;> simp [hin] at h
  refine ⟨?_, a, pt, ty, rest, rfl⟩
  rw [hn, specDeps_typed hin]
  split <;> exact nofun

theorem specDeps_concrete {nd : Bool} {s : Sig} {cty : Ty} (h : s.specDeps nd = .concrete cty) :
    nd = false ∧ s.depIsConcrete = true ∧ ∃ a pt ty rest, s.inputs = .typed a pt ty :: rest ∧ cty = ty.stripRefs := by
  cases nd
  · rcases hin : s.inputs with _ | ⟨_ | ⟨a, pt, ty⟩, rest⟩
    iterate 2 simp [Sig.specDeps, hin] at h
    rw [specDeps_typed hin] at h
    split at h <;> cases h
    exact ⟨rfl, ‹_›, a, pt, ty, rest, rfl, rfl⟩
  · cases h

theorem specDeps_generic {nd : Bool} {s : Sig} {q : Option String} {bs : List Toks} (h : s.specDeps nd = .generic q bs) :
    nd = false ∧ s.depIsConcrete = false ∧ q = s.depGenericName ∧ bs = s.declaredDepBounds := by
  cases nd
  · rcases hin : s.inputs with _ | ⟨_ | ⟨a, pt, ty⟩, rest⟩
    iterate 2 simp [Sig.specDeps, hin] at h
    rw [specDeps_typed hin] at h
    split at h <;> cases h
    exact ⟨rfl, (Bool.not_eq_true _).mp ‹_›, rfl, rfl⟩
  · cases h

/-- a concrete dependency names no type parameter: everything but the lifetimes is lifted -/
theorem lifted_of_concrete {s : Sig} (h : s.depIsConcrete = true) :
    s.lifted false = (liftedParams false s, s.generics.preds.filter (liftable s.generics)) := by
  have hd : s.depGenericName = none := by
    revert h
    unfold Sig.depIsConcrete Sig.depGenericName
    rcases s.inputs with _ | ⟨_ | ⟨_, _, ty⟩, _⟩ <;> try exact fun _ => rfl
    dsimp only
    generalize ty.stripRefs = core
    rcases core with _ | ⟨_ | _, _ | _, _ | _ | _, _, _⟩ | _ | _ | _ <;> try exact fun _ => rfl
    exact fun h => if_neg ((Bool.not_eq_true _).mpr ((Bool.not_eq_true' _).mp h))
  simp [Sig.lifted, liftedParams, hd, Generics.lifted]

theorem mem_lifted_preds {g : Generics} {d : Option String} {q : WherePred} (h : q ∈ (g.lifted d).2) :
    q ∈ g.preds ∧ liftable g q = true := by
  cases d <;> simp only [Generics.lifted, List.mem_filter] at h
  · exact h
  · exact ⟨h.1.1, h.2⟩

/-- the dependency analysis agrees with the specification-side reading of the signature -/
theorem analyzeFnDeps_spec {sig : Sig} {opts : Opts} {tg tg' : TraitGenerics} {deps : FnDeps}
    (h : analyzeFnDeps sig opts tg = .ok (deps, tg')) (hn : opts.noDepsValue = false) :
    (∀ q bs, deps = .generic q bs → bs = sig.declaredDepBounds ∧ sig.depIsConcrete = false) ∧
    (∀ cty, deps = .concrete cty → sig.depIsConcrete = true ∧
        ∃ a pt t0 rest, sig.inputs = .typed a pt t0 :: rest ∧ cty = t0.stripRefs) ∧
    (∀ q ∈ tg'.preds, q ∈ tg.preds ∨ q ∈ sig.generics.preds) := by
  obtain ⟨rfl, rfl⟩ := analyzeFnDeps_ok h
  refine ⟨fun q bs hd => ?_, fun cty hd => (specDeps_concrete hd).2, fun q hq => ?_⟩
  · exact ⟨(specDeps_generic hd).2.2.2, (specDeps_generic hd).2.1⟩
  · exact (List.mem_append.mp hq).imp_right fun hq => (mem_lifted_preds hq).1

end Entrait
