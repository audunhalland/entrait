import EntraitProofs.Anatomy
import EntraitProofs.Slices
import EntraitProofs.Split
import EntraitProofs.C15LocusAttr
import EntraitProofs.Examples
/-
  C15 — misuse yields a compile-time diagnostic; the macro never panics.

  `T_C15_nopanic`: for **every** variant, attribute token list and item, the model's expansion is
  never `.panic _`: each of the implementation's panic sites (`converter.rs` receiver rewriting and
  `Punctuated::insert`, the input-mode guard of `detect_trait_dependency_mode`, the `Pat::Ident`
  expectation of `gen_delegating_fn_item`) is unreachable — a receiver or an empty parameter list
  is rejected by the dependency analysis first, and every parameter pattern has been reduced to a
  plain identifier by `fix_fn_param_idents` before code generation.
  `T_C15_misuse`: whenever the invocation contains a documented misuse (`specMisuses`), the
  expansion is `.diag msg` with `msg` the specific message of one of the misuses present.
  How the proofs hang together: model (`expand`, `diagLocus`) and specification (`specMisuses`,
  `specMisuseLoci`) begin alike — `unsafe mod`, body split, attribute parse (`front_cases`).  What is left is
  the tail shared by fn / mod / impl (`fnsTail`) or a trait; `fnsTail_spec` and `expandTrait_spec` compare
  these with the located lists of the specification, and the `T_C15_*` theorems here and in `C15Locus` read them off:
  `expand_spec` says of every invocation which of syn's error, an expansion or a listed message the model answers
  with, so no answer is left to be a panic.
  Not expressible in the model (left to the correspondence check, which re-parses every real
  output with `syn`): "never emits tokens that fail to parse".
-/
namespace Entrait.C15
open Entrait

theorem genImplBlock_total (opts : Opts) (traitRef : Toks) (ind : ImplIndirection) (tg : TraitGenerics)
    (mode : InputMode) (depMode : DepMode) (subAttrs : List Attr) (fns : List TraitFn)
    (h : ∀ tf ∈ fns, allPlain tf.sig.inputs = true) :
    ∃ im, genImplBlock opts traitRef ind tg mode depMode subAttrs fns = .ok im :=
  ⟨_, genImplBlock_of_allPlain h⟩

theorem ofPErr_ne_panic (e : PErr) (s : String) : Outcome.ofPErr e ≠ .panic s := by
  cases e <;> simp [Outcome.ofPErr]

theorem ofErr_inl_ne_panic (e : PErr) (s : String) : Outcome.ofErr (.inl e) ≠ .panic s := by
  cases e <;> simp [Outcome.ofErr]

def _root_.Entrait.Mode.input : Mode → InputMode
  | .fn => .singleFn | .mod_ => .module | .impl => .implBlock | .trait => .rawTrait

/-- where the diagnostic of `fnsTail` points, error site by error site (`bs`: the signatures with their leaf index) -/
def fnsLocus (kind : ReceiverKind) (mode : InputMode) (opts : Opts) (bs : List (Nat × Sig)) : Option Locus :=
  match analyzeFns kind opts (bs.map (·.2)) {} with
  | .error _ => firstDepsError bs
  | .ok (fns, _) =>
    match detectDepMode mode fns with
    | .error _ => firstConcrete fns bs
    | .ok _ => none

theorem fnsTail_accepts {kind : ReceiverKind} {mode : InputMode} {opts : Opts} {sigs : List Sig} {d : DepMode}
    (h2 : sigs.findSome? (fun s => if opts.noDepsValue then none else depsError s) = none)
    (h3 : detectDepMode mode (sigs.map (analyzed kind opts)) = .ok d)
    (as : List (List Attr)) (traitRef : Toks) (ind : ImplIndirection) (subAttrs : List Attr)
    (k : List TraitFn → TraitGenerics → DepMode → GenImpl → Out) :
    ∃ out, fnsTail kind mode opts sigs as traitRef ind subAttrs k = .ok out := by
  rw [fnsTail_eq, h2]
  simp only [h3]
  exact ⟨_, rfl⟩

/-- analysis of a list of functions: the first rejected signature decides; if none is rejected,
    all are analysed and their dependency kinds agree with the declared ones -/
theorem analyzeFns_misuse (kind : ReceiverKind) {opts : Opts} (hn : opts.noDepsValue = false) :
    ∀ (sigs : List Sig) (tg : TraitGenerics),
      (∃ s ∈ sigs, ∃ m, depsError s = some m ∧ analyzeFns kind opts sigs tg = .error (.inl (.diag m))) ∨
      ((∀ s ∈ sigs, depsError s = none) ∧
        ∃ fns tg', analyzeFns kind opts sigs tg = .ok (fns, tg') ∧ zipAll C04.depsMatch sigs fns = true) := by
  intro sigs tg
  rw [analyzeFns_eq]
  simp only [hn, Bool.false_eq_true, if_false]
  cases hf : sigs.findSome? depsError with
  | some m =>
    obtain ⟨s, hs, hm⟩ := List.exists_of_findSome?_eq_some hf
    exact Or.inl ⟨s, hs, m, hm, rfl⟩
  | none =>
    have hall := List.findSome?_eq_none_iff.mp hf
    refine Or.inr ⟨hall, _, _, rfl, ?_⟩
    rw [zipAll_map_self, List.all_eq_true]
    exact fun s hs => C04.depsMatch_of_analyzeFn hn (analyzeFn_analyzed (kind := kind) (by simp [hn, hall s hs]) {})

/-! ### the specification's lists, function by function -/

theorem sigMisusesAt_of_error {q : Nat × Sig} {m : String} (smode : Mode) (h : depsError q.2 = some m) :
    ∃ l, locAt q.1 q.2.depsErrorAt = some l ∧ sigMisusesAt false smode q = [(m, l)] := by
  cases hat : q.2.depsErrorAt with
  | none => rw [(depsErrorAt_none_iff q.2).mpr hat] at h; cases h
  | some r => exact ⟨_, rfl, by simp [sigMisusesAt, h, hat, locAt]⟩

theorem depTypeAt_of_concrete {s : Sig} (h : s.depIsConcrete = true) : ∃ r, s.depTypeAt = some r := by
  unfold Sig.depIsConcrete at h
  unfold Sig.depTypeAt
  split at h
  · rename_i heq; simp only [heq]; exact ⟨_, rfl⟩
  · cases h

theorem sigMisusesAt_of_ok {q : Nat × Sig} (smode : Mode) (h : depsError q.2 = none) :
    sigMisusesAt false smode q =
      if q.2.depIsConcrete then
        (concreteMisuse smode).flatMap (fun m => (locAt q.1 q.2.depTypeAt).toList.map (fun l => (m, l)))
      else [] := by
  simp [sigMisusesAt, h]

theorem sigMisuses_eq_map (nd : Bool) (smode : Mode) (q : Nat × Sig) :
    sigMisuses nd smode q.2 = (sigMisusesAt nd smode q).map (·.1) := by
  cases nd with
  | true => simp [sigMisuses, sigMisusesAt]
  | false =>
    cases hde : depsError q.2 with
    | some m =>
      obtain ⟨l, _, hl⟩ := sigMisusesAt_of_error smode hde
      simp [sigMisuses, hde, hl]
    | none =>
      rw [sigMisusesAt_of_ok smode hde]
      cases hc : q.2.depIsConcrete with
      | false => simp [sigMisuses, hde, hc]
      | true =>
        obtain ⟨r, hr⟩ := depTypeAt_of_concrete hc
        cases smode <;> simp [sigMisuses, hde, hc, hr, locAt, concreteMisuse]

theorem flatMap_sigMisuses (nd : Bool) (smode : Mode) (bs : List (Nat × Sig)) :
    (bs.map (·.2)).flatMap (sigMisuses nd smode) = (bs.flatMap (sigMisusesAt nd smode)).map (·.1) := by
  simp only [List.flatMap_map, List.map_flatMap, sigMisuses_eq_map]

theorem detectDepMode_noDeps (mode : InputMode) :
    ∀ fns : List TraitFn, (∀ tf ∈ fns, tf.deps = .noDeps) → detectDepMode mode fns = .ok .generic
  | [], _ => rfl
  | tf :: fns, h => by
      obtain ⟨h1, h2⟩ := List.forall_mem_cons.mp h
      simp only [detectDepMode, h1, detectDepMode_noDeps mode fns h2]

theorem firstDepsError_spec (smode : Mode) : ∀ {bs : List (Nat × Sig)} {m : String},
    (bs.map (·.2)).findSome? depsError = some m →
      ∃ l, (m, l) ∈ bs.flatMap (sigMisusesAt false smode) ∧ firstDepsError bs = some l
  | [], _, h => by cases h
  | (b, s) :: rest, m, h => by
      rw [List.map_cons, List.findSome?_cons] at h
      cases hde : depsError s with
      | some m' =>
        obtain rfl : m' = m := by simpa [hde] using h
        obtain ⟨l, hl, hL⟩ := sigMisusesAt_of_error (q := (b, s)) smode hde
        refine ⟨l, by simp [hL], ?_⟩
        cases hat : s.depsErrorAt with
        | none => simp [hat, locAt] at hl
        | some r => simpa only [firstDepsError, hat] using hl
      | none =>
        rw [hde] at h
        obtain ⟨l, hl, hf⟩ := firstDepsError_spec smode h
        exact ⟨l, by simp [hl], by simp only [firstDepsError, (depsErrorAt_none_iff s).mp hde, hf]⟩

/-- Dependency mode of the analysed functions when the analysis rejects none: the first concrete dependency in a
    module / impl block decides message and place; without one (or for a single fn) a mode is found. -/
theorem detect_located (smode : Mode) (hs : smode ≠ .trait) (kind : ReceiverKind) {opts : Opts}
    (hn : opts.noDepsValue = false) :
    ∀ bs : List (Nat × Sig), (∀ q ∈ bs, depsError q.2 = none) →
      (bs.flatMap (sigMisusesAt false smode) = [] ∧
        ∃ d, detectDepMode smode.input ((bs.map (·.2)).map (analyzed kind opts)) = .ok d) ∨
      (∃ ml ∈ bs.flatMap (sigMisusesAt false smode),
          detectDepMode smode.input ((bs.map (·.2)).map (analyzed kind opts)) = .error (.inl (.diag ml.1)) ∧
          firstConcrete ((bs.map (·.2)).map (analyzed kind opts)) bs = some ml.2) := by
  intro bs hall
  induction bs with
  | nil => exact Or.inl ⟨rfl, .generic, rfl⟩
  | cons q rest ih =>
    obtain ⟨b, s⟩ := q
    obtain ⟨hde, hall'⟩ := List.forall_mem_cons.mp hall
    simp only [List.flatMap_cons, sigMisusesAt_of_ok smode hde, List.map_cons]
    obtain ⟨hn', _⟩ | ⟨_, _, _, ty, _, _, ⟨hdm, hd⟩ | ⟨hdm, hd⟩⟩ :=
      analyzeFn_deps_cases (analyzeFn_analyzed (kind := kind) (s := s) (by simp [hde]) {})
    · rw [hn] at hn'; cases hn'
    · obtain ⟨⟨o, n⟩, hr⟩ := depTypeAt_of_concrete hdm
      cases smode with
      | trait => exact absurd rfl hs
      | fn =>
        refine Or.inl ⟨?_, .concrete ty.stripRefs, by simp only [Mode.input, detectDepMode, hd]⟩
        simp only [concreteMisuse, List.flatMap_nil, ite_self, List.nil_append, List.flatMap_eq_nil_iff]
        exact fun q hq => by simp [sigMisusesAt_of_ok .fn (hall' q hq), concreteMisuse]
      | mod_ =>
        exact Or.inr ⟨(msgConcreteInModule, .item (b + o) n), by simp [hdm, hr, locAt, concreteMisuse],
          by simp only [Mode.input, detectDepMode, hd], by simp only [firstConcrete, hd, hr, locAt]⟩
      | impl =>
        exact Or.inr ⟨(msgConcreteInImpl, .item (b + o) n), by simp [hdm, hr, locAt, concreteMisuse],
          by simp only [Mode.input, detectDepMode, hd], by simp only [firstConcrete, hd, hr, locAt]⟩
    · simp only [hdm, Bool.false_eq_true, if_false, List.nil_append, detectDepMode, firstConcrete, hd]
      exact ih hall'

/-- **The tail against the specification**, for the functions `bs` (each with the leaf index of its signature):
    if the specification lists no misuse among them the tail succeeds; otherwise it answers with one of the listed
    misuses, and `fnsLocus` is the place listed for it. -/
theorem fnsTail_spec (smode : Mode) (hs : smode ≠ .trait) (kind : ReceiverKind) (opts : Opts) (bs : List (Nat × Sig))
    (as : List (List Attr)) (traitRef : Toks) (ind : ImplIndirection) (subAttrs : List Attr)
    (k : List TraitFn → TraitGenerics → DepMode → GenImpl → Out) :
    (bs.flatMap (sigMisusesAt opts.noDepsValue smode) = [] ∧
        ∃ out, fnsTail kind smode.input opts (bs.map (·.2)) as traitRef ind subAttrs k = .ok out) ∨
    (opts.noDepsValue = false ∧ ∃ ml ∈ bs.flatMap (sigMisusesAt opts.noDepsValue smode),
        fnsTail kind smode.input opts (bs.map (·.2)) as traitRef ind subAttrs k = .diag ml.1 ∧
        fnsLocus kind smode.input opts bs = some ml.2) := by
  cases hn : opts.noDepsValue with
  | true =>
    refine Or.inl ⟨by simp [sigMisusesAt], fnsTail_accepts (by simp [hn]) (detectDepMode_noDeps _ _ fun tf htf => ?_) ..⟩
    obtain ⟨s, _, rfl⟩ := List.mem_map.mp htf
    rw [analyzed_deps, hn]
    rfl
  | false =>
    have hnd : (fun s => if opts.noDepsValue then none else depsError s) = depsError := by simp [hn]
    cases hf : (bs.map (·.2)).findSome? depsError with
    | some m =>
      obtain ⟨l, hml, hl⟩ := firstDepsError_spec smode hf
      exact Or.inr ⟨rfl, (m, l), hml, by rw [fnsTail_eq, hnd, hf],
        by simp only [fnsLocus, analyzeFns_eq, hnd, hf, hl]⟩
    | none =>
      have hall : ∀ q ∈ bs, depsError q.2 = none :=
        fun q hq => List.findSome?_eq_none_iff.mp hf q.2 (List.mem_map_of_mem hq)
      rcases detect_located smode hs kind hn bs hall with ⟨hnil, d, hd⟩ | ⟨ml, hml, hd, hfc⟩
      · exact Or.inl ⟨hnil, fnsTail_accepts (by rw [hnd]; exact hf) hd ..⟩
      · exact Or.inr ⟨rfl, ml, hml, by rw [fnsTail_eq, hnd, hf]; simp only [hd, Outcome.ofErr],
          by simp only [fnsLocus, analyzeFns_eq, hnd, hf, hd, hfc]⟩

theorem lastDelegateAt_some : ∀ (segs : List Toks) (st a : TraitAttr) (base : Nat) (acc : Option Nat),
    parseOptSegs TraitAttr.set st segs = .ok a → (st.delegation.isSome → acc.isSome) →
      a.delegation.isSome → (lastDelegateAt segs base acc).isSome
  | [], st, a, base, acc, h, hacc, ha => by
      cases h
      exact hacc ha
  | seg :: segs, st, a, base, acc, h, hacc, ha => by
      obtain ⟨o, st', hp, hset, h'⟩ := (parseOptSegs_cons_ok TraitAttr.set).mp h
      refine lastDelegateAt_some segs st' a _ _ h' (fun hst' => ?_) ha
      rw [hp]
      cases o <;> cases hset <;> first | rfl | exact hacc hst'

theorem implTrait_preserved {segs : List Toks} {st a : TraitAttr} (h : parseOptSegs TraitAttr.set st segs = .ok a) :
    a.implTrait = st.implTrait :=
  parseOptSegs_inv TraitAttr.set (fun x => x.implTrait = st.implTrait) segs st a
    (by intro _ _ o _ _ s s' hs hq; cases o <;> cases hs <;> exact hq) rfl h

/-- a successfully parsed trait attribute that carries `delegate_by` but no target trait: the
    `delegate_by` keyword is found among the option segments -/
theorem lastDelegateAt_of_parse {attr : Toks} {a : TraitAttr} (h : parseTraitAttr attr = .ok a)
    (hi : a.implTrait = none) (hd : a.delegation.isSome) :
    ∃ n, lastDelegateAt (splitCommas attr) 0 none = some n := by
  unfold parseTraitAttr at h
  split at h
  · cases h; cases hd
  · match hsp : splitCommas attr with
    | [] => rw [hsp] at h; cases h; cases hd
    | seg0 :: segs =>
      rw [hsp] at h
      obtain ⟨_, hp, _⟩ | hs | ⟨vis, name, rest0, _, hc⟩ := parseTraitSegs_cases seg0
      · rw [parseTraitSegs_of_opt hp] at h
        exact Option.isSome_iff_exists.mp (lastDelegateAt_some (seg0 :: segs) {} a 0 none h (by simp) hd)
      · rw [hs] at h; cases h
      · rw [(hc segs).1] at h
        have := implTrait_preserved h
        rw [hi] at this
        cases this

/-- everything the unsupported members of a trait decide, in one walk -/
theorem otherMembers_cases : ∀ (ms : List TraitMember) (off : Nat),
    (ms.any TraitMember.isOther = false ∧ otherMemberLoci ms off = [] ∧ firstOtherMember ms off = none ∧
      ∃ fns, analyzeTraitMembers ms = .ok fns) ∨
    (ms.any TraitMember.isOther = true ∧ analyzeTraitMembers ms = .error (.diag msgUnsupportedTraitItem) ∧
      ∃ l ls, otherMemberLoci ms off = l :: ls ∧ firstOtherMember ms off = some l)
  | [], _ => Or.inl ⟨rfl, rfl, rfl, _, rfl⟩
  | .other ts :: rest, off => Or.inr ⟨rfl, rfl, _, _, rfl, rfl⟩
  | .fn f :: rest, off => by
      simp only [List.any_cons, TraitMember.isOther, Bool.false_or, otherMemberLoci, firstOtherMember, analyzeTraitMembers]
      rcases otherMembers_cases rest (off + flatLen (TraitMember.fn f).print) with ⟨h1, h2, h3, fns, h4⟩ | ⟨h1, h2, h3⟩
      · exact Or.inl ⟨h1, h2, h3, by simp only [h4]; exact ⟨_, rfl⟩⟩
      · exact Or.inr ⟨h1, by simp only [h2], h3⟩
  | .type_ ts :: rest, off => otherMembers_cases rest _

/-- **Trait mode against the specification**: no listed misuse and the expansion succeeds, or the answer is one
    of the listed misuses, message and place. -/
theorem expandTrait_spec (v : Variant) {attr : Toks} {a : TraitAttr} (t : TraitItem) (h1 : parseTraitAttr attr = .ok a) :
    (delegationMisusesAt attr a.implTrait a.delegation = [] ∧ otherMemberLoci t.members (flatLen t.headToks + 1) = [] ∧
        ∃ out, expandTrait v attr t = .ok out) ∨
    (∃ ml ∈ delegationMisusesAt attr a.implTrait a.delegation ++
          (otherMemberLoci t.members (flatLen t.headToks + 1)).map (fun l => (msgUnsupportedTraitItem, l)),
        expandTrait v attr t = .diag ml.1 ∧ traitLocus attr t = some ml.2) := by
  by_cases hc : a.implTrait = none ∧ ∃ dn, a.delegation = some (.byTrait dn)
  · obtain ⟨hi, dn, hd⟩ := hc
    obtain ⟨n, hn⟩ := lastDelegateAt_of_parse h1 hi (by simp [hd])
    exact Or.inr ⟨(msgCustomWithoutTrait, .attr n 1), by simp [hi, hd, delegationMisusesAt, hn],
      by simp only [expandTrait, h1, hi, hd], by simp only [traitLocus, h1, hi, hd, hn, Option.map]⟩
  · obtain ⟨it, o, d⟩ := a
    rcases otherMembers_cases t.members (flatLen t.headToks + 1) with ⟨_, ho, hf, fns, ha⟩ | ⟨_, ha, l, ls, ho, hf⟩
    · rcases it with _ | it <;> rcases d with _ | _ | b | dn <;>
        simp only [expandTrait, traitLocus, h1, ha, hf, genDelegationTraitDefs, Outcome.ofPErr]
      · exact Or.inl ⟨rfl, ho, _, rfl⟩
      · exact Or.inl ⟨rfl, ho, _, rfl⟩
      · exact Or.inl ⟨rfl, ho, _, rfl⟩
      · exact absurd ⟨rfl, dn, rfl⟩ hc
      · exact Or.inr ⟨_, List.mem_append_left _ List.mem_cons_self, rfl, rfl⟩
      · exact Or.inr ⟨_, List.mem_append_left _ List.mem_cons_self, rfl, rfl⟩
      · exact Or.inl ⟨rfl, ho, _, rfl⟩
      · exact Or.inl ⟨rfl, ho, _, rfl⟩
    · have hmem : (msgUnsupportedTraitItem, l) ∈ delegationMisusesAt attr it d ++
          (otherMemberLoci t.members (flatLen t.headToks + 1)).map (fun l => (msgUnsupportedTraitItem, l)) := by simp [ho]
      rcases it with _ | it <;> rcases d with _ | _ | b | dn <;>
        first | exact absurd ⟨rfl, _, rfl⟩ hc
              | exact Or.inr ⟨_, hmem, by simp only [expandTrait, h1, ha, Outcome.ofPErr], by simp only [traitLocus, h1, hf]⟩

/-! ### where the functions of a module / impl block are -/

theorem sigBases_located {isImpl : Bool} {o : SigOracle} {items : List BodyItem} {head body : Toks} (hst : OracleOk o body)
    (h0 : splitBody isImpl o body.length body = .ok items) {q : Nat × Sig} (hq : q ∈ sigBases items (flatLen head + 1)) :
    At (head ++ [braces body]) q.1 q.2.print ∧ ∃ f ∈ items.filterMap BodyItem.fn?, f.sig = q.2 := by
  obtain ⟨k, hk, hat, hf⟩ := sigBases_slice (b := q.1) (s := q.2) hq
  exact ⟨(splitBody_whole hst h0 ▸ hat).in_group head .brace |>.of_eq (by omega), hf⟩

theorem detectDepMode_singleFn : ∀ fns : List TraitFn, ∃ d, detectDepMode .singleFn fns = .ok d
  | [] => ⟨_, rfl⟩
  | tf :: fns => by
      unfold detectDepMode
      split
      · exact ⟨_, rfl⟩
      · exact detectDepMode_singleFn fns

theorem fnsLocus_some {kind : ReceiverKind} {mode : InputMode} {opts : Opts} {bs : List (Nat × Sig)} {l : Locus}
    (h : fnsLocus kind mode opts bs = some l) :
    (∃ e, analyzeFns kind opts (bs.map (·.2)) {} = .error e ∧ firstDepsError bs = some l) ∨
    (∃ fns tg e, analyzeFns kind opts (bs.map (·.2)) {} = .ok (fns, tg) ∧ detectDepMode mode fns = .error e ∧
      firstConcrete fns bs = some l) := by
  unfold fnsLocus at h
  cases hA : analyzeFns kind opts (bs.map (·.2)) {} with
  | error e => exact Or.inl ⟨e, rfl, by simpa only [hA] using h⟩
  | ok r =>
    obtain ⟨fns, tg⟩ := r
    simp only [hA] at h
    cases hD : detectDepMode mode fns with
    | error e => exact Or.inr ⟨fns, tg, e, rfl, hD, by simpa only [hD] using h⟩
    | ok d => simp [hD] at h

/-- the item's own tokens are what the encoder printed (module / impl bodies: the signature oracle is stable) -/
def _root_.Entrait.C15Locus.BodyStable : Item → Prop
  | .mod_ m => OracleOk m.oracle m.body
  | .impl m => OracleOk m.oracle m.body
  | _ => True

/-- How `expand` and `diagLocus` on one side and the specification's `specMisuses` / `specMisuseLoci` on the other
    all begin: the `unsafe mod` check, the body split, the attribute parse.  That either ends the matter, with nothing
    claimed (`silent`) or with the one message claimed (`early`), or hands the item's functions `bs` (each with the
    leaf index of its signature) to `fnsTail` (`fns`), or leaves a trait with its parsed attribute (`trait`). -/
inductive Front (v : Variant) (attr : Toks) (item : Item) : Prop
  | silent (e : PErr) (hx : expand v attr item = .ofPErr e)
      (hs : specMisuses attr item = none) (hsl : specMisuseLoci attr item = none)
  | early (m : String) (ol : Option Locus) (hx : expand v attr item = .diag m) (hl : diagLocus v attr item = ol)
      (hs : specMisuses attr item = some [m])
      (hsl : specMisuseLoci attr item = some (ol.toList.map (fun l => (m, l))))
      (hw : ∀ n len, ol = some (.item n len) → At item.print n [i "unsafe"] ∧ len = 1)
  | fns (smode : Mode) (hm : smode ≠ .trait) (kind : ReceiverKind) (opts : Opts) (bs : List (Nat × Sig))
      (as : List (List Attr)) (traitRef : Toks) (ind : ImplIndirection) (subAttrs : List Attr)
      (k : List TraitFn → TraitGenerics → DepMode → GenImpl → Out)
      (hx : expand v attr item = fnsTail kind smode.input opts (bs.map (·.2)) as traitRef ind subAttrs k)
      (hl : opts.noDepsValue = false → ∀ l, fnsLocus kind smode.input opts bs = some l → diagLocus v attr item = some l)
      (hs : specMisuses attr item = some ((bs.map (·.2)).flatMap (sigMisuses opts.noDepsValue smode)))
      (hsl : specMisuseLoci attr item = some (bs.flatMap (sigMisusesAt opts.noDepsValue smode)))
      (hw : C15Locus.BodyStable item → ∀ q ∈ bs, At item.print q.1 q.2.print ∧ ∃ f ∈ item.sourceFns, f.sig = q.2)
  | trait (t : TraitItem) (a : TraitAttr) (hi : item = .trait t) (ha : parseTraitAttr attr = .ok a)

/-- the attribute does not parse: nothing is claimed for a syn error, and the diagnostic is the one claimed, on the attribute -/
theorem Front.of_attrErr {v : Variant} {attr : Toks} {item : Item} (e : PErr) (ol : Option Locus)
    (hx : expand v attr item = .ofPErr e) (hl : diagLocus v attr item = ol)
    (hs : specMisuses attr item = match e with | .syn => none | .diag m => some [m])
    (hsl : specMisuseLoci attr item = match e with | .syn => none | .diag m => some (ol.toList.map (fun l => (m, l))))
    (ha : ∀ m, e = .diag m → ∃ n, ol = some (.attr n 1)) : Front v attr item := by
  cases e with
  | syn => exact .silent .syn hx hs hsl
  | diag m =>
    obtain ⟨k, hk⟩ := ha m rfl
    exact .early m ol hx hl hs hsl (fun n len h => by rw [hk] at h; cases h)

theorem front_cases (v : Variant) (attr : Toks) (item : Item) : Front v attr item := by
  cases item with
  | fn f =>
    cases h1 : parseFnAttr attr with
    | error e =>
      exact .of_attrErr e (fnAttrLocus attr) (by simp only [expand, expandFn_eq, h1]) (by simp only [diagLocus, fnLocus, h1])
        (by cases e <;> simp only [specMisuses, h1]) (by cases e <;> simp only [specMisuseLoci, h1])
        (fun m hm => (C15LocusAttr.T_C15_attr_where_fn attr m (hm ▸ h1)).imp fun _ ⟨_, h, _⟩ => h)
    | ok a =>
      refine .fns .fn (by decide) .selfRef (v.apply a.opts) [(f.sigBase, f.sig)] [] [i a.traitIdent] .none f.attrs _
        (by simp only [expand, expandFn_eq, h1]; rfl) ?_ (by simp [specMisuses, h1, apply_noDepsValue])
        (by simp [specMisuseLoci, h1, apply_noDepsValue]) ?_
      · intro hn l hl
        simp only [diagLocus, fnLocus, h1, hn, Bool.false_eq_true, if_false]
        rcases fnsLocus_some hl with ⟨_, _, h⟩ | ⟨fns, _, e, _, hD, _⟩
        · exact h
        · obtain ⟨d, hd⟩ := detectDepMode_singleFn fns
          rw [Mode.input, hd] at hD; cases hD
      · intro _ q hq
        obtain rfl := List.mem_singleton.mp hq
        have hat := At.mid (printAttrs f.attrs ++ f.vis) f.sig.print f.body
        exact ⟨hat, f, List.mem_cons_self, rfl⟩
  | mod_ m =>
    cases hu : m.unsafe_ with
    | true =>
      refine .early msgNotAllowedHere (some (.item (flatLen (printAttrs m.attrs ++ m.vis)) 1))
        (by simp only [expand, hu, if_true]) (by simp only [diagLocus, modLocus, hu, if_true])
        (by simp only [specMisuses, hu, if_true]) (by simp only [specMisuseLoci, hu, if_true]; rfl) (fun n len h => ?_)
      cases h
      have hat := At.mid (printAttrs m.attrs ++ m.vis) [i "unsafe"] [i "mod", i m.ident, braces m.body]
      exact ⟨by simpa only [Item.print, ModItemIn.print, hu, if_true] using hat, rfl⟩
    | false =>
      have hp : (Item.mod_ m).print = m.headToks ++ [braces m.body] := (List.append_assoc _ [_, _] [_]).symm
      cases h0 : splitBody false m.oracle m.body.length m.body with
      | error e =>
        exact .silent e (by simp [expand, hu, expandMod_eq, h0]) (by simp [specMisuses, hu, h0])
          (by simp [specMisuseLoci, hu, h0])
      | ok items =>
        cases h1 : parseFnAttr attr with
        | error e =>
          exact .of_attrErr e (fnAttrLocus attr) (by simp [expand, hu, expandMod_eq, h0, h1])
            (by simp [diagLocus, modLocus, hu, h0, h1]) (by cases e <;> simp [specMisuses, hu, h0, h1])
            (by cases e <;> simp [specMisuseLoci, hu, h0, h1])
            (fun m hm => (C15LocusAttr.T_C15_attr_where_fn attr m (hm ▸ h1)).imp fun _ ⟨_, h, _⟩ => h)
        | ok a =>
          refine .fns .mod_ (by decide) .selfRef (v.apply a.opts) (sigBases items (flatLen m.headToks + 1))
            (bodyFnAttrs items) [i a.traitIdent] .none m.attrs _
            (by simp only [expand, hu, Bool.false_eq_true, if_false, expandMod_eq, h0, h1, sigBases_sigs]; rfl) ?_
            (by simp [specMisuses, hu, h0, h1, apply_noDepsValue, sigBases_sigs, List.flatMap_map])
            (by simp [specMisuseLoci, hu, h0, h1, apply_noDepsValue]) ?_
          · intro hn l hl
            simp only [diagLocus, modLocus, hu, h0, h1, hn, Bool.false_eq_true, if_false]
            rcases fnsLocus_some hl with ⟨e, hA, h⟩ | ⟨fns, tg, e, hA, _, h⟩ <;> simp only [hA] <;> exact h
          · exact fun hst q hq => by simpa only [hp, Item.sourceFns, h0] using sigBases_located (head := m.headToks) hst h0 hq
  | impl m =>
    have hp : (Item.impl m).print = m.headToks ++ [braces m.body] := rfl
    cases h0 : splitBody true m.oracle m.body.length m.body with
    | error e =>
      exact .silent e (by simp [expand, expandImpl_eq, h0]) (by simp [specMisuses, h0]) (by simp [specMisuseLoci, h0])
    | ok items =>
      cases h1 : parseImplAttr attr with
      | error e =>
        exact .of_attrErr e (implAttrLocus attr) (by simp [expand, expandImpl_eq, h0, h1])
          (by simp [diagLocus, implLocus, h0, h1]) (by cases e <;> simp [specMisuses, h0, h1])
          (by cases e <;> simp [specMisuseLoci, h0, h1])
          (fun m hm => (C15LocusAttr.T_C15_attr_where_impl attr m (hm ▸ h1)).imp fun _ ⟨_, h, _⟩ => h)
      | ok a =>
        have hn : (v.apply a.opts).noDepsValue = false := impl_noDepsValue h1
        refine .fns .impl (by decide) (if a.dynRef then .dynamicImpl else .staticImpl) (v.apply a.opts)
          (sigBases items (flatLen m.headToks + 1)) (bodyFnAttrs items) m.traitPath
          (if a.dynRef then .dynamic m.selfTy else .static_ m.selfTy) m.attrs _
          (by simp only [expand, expandImpl_eq, h0, h1, sigBases_sigs]; rfl) ?_
          (by simp [specMisuses, h0, h1, hn, sigBases_sigs, List.flatMap_map])
          (by simp [specMisuseLoci, h0, h1, hn]) ?_
        · intro _ l hl
          simp only [diagLocus, implLocus, h0, h1]
          rcases fnsLocus_some hl with ⟨e, hA, h⟩ | ⟨fns, tg, e, hA, _, h⟩ <;> simp only [hA] <;> exact h
        · exact fun hst q hq => by simpa only [hp, Item.sourceFns, h0] using sigBases_located (head := m.headToks) hst h0 hq
  | trait t =>
    cases h1 : parseTraitAttr attr with
    | error e =>
      exact .of_attrErr e (traitAttrLocus attr) (by simp [expand, expandTrait, h1]) (by simp [diagLocus, traitLocus, h1])
        (by cases e <;> simp [specMisuses, h1]) (by cases e <;> simp [specMisuseLoci, h1])
        (fun m hm => (C15LocusAttr.T_C15_attr_where_trait attr m (hm ▸ h1)).imp fun _ ⟨_, h, _⟩ => h)
    | ok a => exact .trait t a rfl h1

/-! ### trait mode: the unlocated list has the messages of the located one -/

theorem delegationMisuses_eq_map {attr : Toks} {a : TraitAttr} (ha : parseTraitAttr attr = .ok a) :
    delegationMisuses a.implTrait a.delegation = (delegationMisusesAt attr a.implTrait a.delegation).map (·.1) := by
  by_cases hc : a.implTrait = none ∧ ∃ dn, a.delegation = some (.byTrait dn)
  · obtain ⟨hi, dn, hd⟩ := hc
    obtain ⟨n, hn⟩ := lastDelegateAt_of_parse ha hi (by simp [hd])
    simp [hi, hd, delegationMisuses, delegationMisusesAt, hn]
  · obtain ⟨it, o, d⟩ := a
    rcases it with _ | it <;> rcases d with _ | _ | b | dn <;> first | rfl | exact absurd ⟨rfl, _, rfl⟩ hc

theorem traitMisuses_mem {attr : Toks} {a : TraitAttr} (ha : parseTraitAttr attr = .ok a) (ms : List TraitMember) (off : Nat)
    (m : String) :
    m ∈ delegationMisuses a.implTrait a.delegation ++ (if ms.any TraitMember.isOther then [msgUnsupportedTraitItem] else []) ↔
    ∃ l, (m, l) ∈ delegationMisusesAt attr a.implTrait a.delegation ++
      (otherMemberLoci ms off).map (fun l => (msgUnsupportedTraitItem, l)) := by
  rw [delegationMisuses_eq_map ha]
  rcases otherMembers_cases ms off with ⟨hany, ho, _⟩ | ⟨hany, _, l, ls, ho, _⟩
  · simp [hany, ho]
  · simp only [hany, ho, if_true, List.mem_append, List.mem_map, List.mem_singleton, Prod.mk.injEq, exists_or]
    refine or_congr (by simp) ⟨fun h => ⟨l, l, List.mem_cons_self, h.symm, rfl⟩, fun ⟨_, _, _, h, _⟩ => h.symm⟩

/-- **C15 in one statement**: where the specification claims nothing (`none`: the arguments or the body do not parse)
    the model answers with that parse error, never a panic; otherwise it expands if no misuse is listed, and answers with
    the message of a listed one if any is. -/
theorem expand_spec (v : Variant) (attr : Toks) (item : Item) :
    (specMisuses attr item = none ∧ ∃ e, expand v attr item = .ofPErr e) ∨
    ∃ ms, specMisuses attr item = some ms ∧
      ((ms = [] ∧ ∃ out, expand v attr item = .ok out) ∨ ∃ m ∈ ms, expand v attr item = .diag m) := by
  cases front_cases v attr item with
  | silent e hx hs => exact .inl ⟨hs, e, hx⟩
  | early m ol hx _ hs => exact .inr ⟨[m], hs, .inr ⟨m, List.mem_cons_self, hx⟩⟩
  | fns smode hm kind opts bs as traitRef ind subAttrs k hx _ hs =>
    refine .inr ⟨_, hs, ?_⟩
    rw [flatMap_sigMisuses, hx]
    rcases fnsTail_spec smode hm kind opts bs as traitRef ind subAttrs k with ⟨hnil, hok⟩ | ⟨_, ml, hml, hd, _⟩
    · exact .inl ⟨by rw [hnil]; rfl, hok⟩
    · exact .inr ⟨ml.1, List.mem_map_of_mem hml, hd⟩
  | trait t a hi ha =>
    subst hi
    refine .inr ⟨_, by simp only [specMisuses, ha]; rfl, ?_⟩
    have hmem := traitMisuses_mem ha t.members (flatLen t.headToks + 1)
    rcases expandTrait_spec v t ha with ⟨hD, hO, hok⟩ | ⟨ml, hml, hd, _⟩
    · refine .inl ⟨List.eq_nil_iff_forall_not_mem.mpr fun m hm => ?_, hok⟩
      obtain ⟨l, hl⟩ := (hmem m).mp hm
      simp [hD, hO] at hl
    · exact .inr ⟨ml.1, (hmem ml.1).mpr ⟨ml.2, hml⟩, hd⟩

theorem T_C15_nopanic (v : Variant) (attr : Toks) (item : Item) (s : String) :
    expand v attr item ≠ .panic s := by
  rcases expand_spec v attr item with ⟨_, e, hx⟩ | ⟨ms, _, ⟨_, out, hx⟩ | ⟨m, _, hx⟩⟩ <;> rw [hx]
  · exact ofPErr_ne_panic e s
  · nofun
  · nofun

theorem T_C15_misuse (v : Variant) (attr : Toks) (item : Item) (m : String) (ms : List String)
    (h : specMisuses attr item = some (m :: ms)) :
    ∃ msg ∈ m :: ms, expand v attr item = .diag msg := by
  rcases expand_spec v attr item with ⟨hs, _⟩ | ⟨ms', hs, ⟨rfl, _⟩ | hd⟩ <;> rw [hs] at h <;> cases h
  exact hd

/-- **acceptance**: when the attribute arguments and the item are well-formed at the syn level and
    none of the documented misuses is present, the model expands (for a single fn: also with a
    concrete dependency) -/
theorem T_C15_accepts (v : Variant) (attr : Toks) (item : Item) (h : specMisuses attr item = some []) :
    ∃ out, expand v attr item = .ok out := by
  rcases expand_spec v attr item with ⟨hs, _⟩ | ⟨ms', hs, ⟨_, hok⟩ | ⟨m, hm, _⟩⟩ <;> rw [hs] at h <;> cases h
  · exact hok
  · cases hm

/-- non-vacuity: a function without a dependency parameter, and a delegation-target trait without `delegate_by` -/
example : specMisuses [i "Foo"] (.fn { sig := { ident := "f" } }) = some [msgNoReceiver] ∧
    expand .plain [i "Foo"] (.fn { sig := { ident := "f" } }) = .diag msgNoReceiver := ⟨rfl, rfl⟩

example : specMisuses [i "TrImpl"] (.trait Examples.traitTr) = some [msgMissingDelegateBy] ∧
    expand .plain [i "TrImpl"] (.trait Examples.traitTr) = .diag msgMissingDelegateBy := by decide +kernel

end Entrait.C15
