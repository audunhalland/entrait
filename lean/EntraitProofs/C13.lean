import EntraitProofs.Anatomy
/-
  C13 — generated traits have exactly the requested visibility.

  fn input: the trait's visibility tokens are the requested ones (none if none), whatever the
  function's own visibility.  mod input: the trait lives inside the module and is re-exported, so it carries
  `visFromInside` of the requested visibility — `pub(super)` if none is requested, a path relative to the outer module
  re-based (since fix c1f44e0; `moduleVis_eq`, and `C13Scope` for what that denotes).  trait input: the re-emitted trait
  and the delegation-target trait carry the source trait's visibility.
-/
namespace Entrait.C13
open Entrait

theorem genTraitDef_vis (opts ind depMode subAttrs vis ident tg sup fns mode) :
    (genTraitDef opts ind depMode subAttrs vis ident tg sup fns mode).vis = traitVisibility mode vis := rfl

theorem genTraitDef_ident (opts ind depMode subAttrs vis ident tg sup fns mode) :
    (genTraitDef opts ind depMode subAttrs vis ident tg sup fns mode).ident = ident := rfl

theorem moduleVis_eq (vis : Toks) :
    (if vis = [] then [i "pub", parens [i "super"]] else rebaseVis vis) = visFromInside vis := by
  by_cases hv : vis = []
  · subst hv; rfl
  · simp only [hv, if_false]
    unfold rebaseVis
    split
    · rfl
    · rfl
    · rfl
    · rfl
    · rename_i h2 h3 h4 h5
      unfold visFromInside
      split
      · exact absurd rfl hv
      · exact absurd rfl h2
      · exact absurd rfl h3
      · rename_i rest; exact absurd rfl (h4 rest)
      · rename_i rest; exact absurd rfl (h5 rest)
      · rfl

theorem T_C13 (v : Variant) (attr : Toks) (item : Item) (out : Out)
    (h : expand v attr item = .ok out) : P_C13 attr item out.view = true := by
  by_cases hm : item.inputMode = .singleFn ∨ item.inputMode = .module
  · obtain ⟨a, tg, depMode, im, h1, _, htr, _⟩ := expand_fnmod_ok h hm
    obtain ⟨f, rfl⟩ | ⟨m, rfl⟩ := Item.fnmod_cases hm <;>
      simp [P_C13, h1, mainTrait?, htr, genTraitDef_vis, traitVisibility, Item.inputMode, moduleVis_eq]
  · obtain ⟨t, rfl⟩ | ⟨m, rfl⟩ := Item.not_fnmod_cases hm
    · obtain ⟨a0, h1, hd, htr, _⟩ := expandTrait_view h
      simp only [P_C13, h1, htr, genTraitDef_vis, traitVisibility, beq_self_eq_true, Bool.true_and, delegationTraits]
      revert hd
      rcases a0.implTrait with _ | ⟨_, _⟩ <;> rcases a0.delegation with _ | _ | _ | _ <;>
        simp [delegationMisuses, targetTrait, genTraitDef_vis, genTraitDef_ident, traitVisibility]
    · rfl

end Entrait.C13
