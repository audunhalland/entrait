import EntraitProofs.Anatomy
/-
  C09 — an entraited trait definition is preserved.

  `T_C09_partial`: the trait that results from `#[entrait] trait T` has the user's name,
  visibility, generic parameters, supertraits and where clause (token for token, including
  trailing punctuation); every attribute on it is either one the user wrote or a mock derivation
  the macro owns; and its methods are, in order, the user's methods with their attributes and
  their signature — identical, except for the one documented rewrite of an `async fn` declaration
  (no `async_trait` in force) into `fn -> impl ::core::future::Future<Output = R> [+ Send]`.

  Every attribute of the trait is kept (`attrs_kept`, since fix 58615e0).
  The property as stated also demands `unsafe`ness, default method bodies and associated types.
  The macro does **not** preserve these: `C09_unsafe_dropped`, `C09_default_dropped`, `C09_assoc_dropped` prove it
  of the model on concrete witnesses (the same witnesses are replayed on the real macro by the
  check and recorded as known findings).  Hence `_partial`.
-/
namespace Entrait.C09
open Entrait

theorem mem_mockKind_of_kinds {as : List Attr} {a : Attr} (ha : a ∈ as)
    (hk : ∀ x ∈ as, x.mockKind.isSome = true) : a.mockKind.isSome = true := hk a ha

theorem members_ok (t : TraitItem) (o : Opts) (fs : List TraitFnItem) :
    zipAll (declMemberOk (containsAsyncTrait t.attrs) o.futureSendValue) fs
      (((fs.map traitFnOf).map fun tf => GenMember.fn tf.attrs (makeTraitFnSig tf.sig t.attrs o) none).filter
        (fun m => m.sig?.isSome)) = true := by
  rw [filter_sig_all _ _ fun _ => rfl, List.map_map, zipAll_map_self, List.all_eq_true]
  exact fun f _ => by simp [declMemberOk, traitFnOf, makeTraitFnSig_eq]

/-- since fix 58615e0 every attribute of the entraited trait is kept, in order, after the macro's own -/
theorem attrs_kept (opts : Opts) (t : TraitItem) (vis ident tg sup fns) :
    t.attrs.isSublist (genTraitDef opts .trait .generic t.attrs vis ident tg sup fns .rawTrait).attrs = true := by
  simp only [genTraitDef, reappliedSubs_rawTrait]
  rw [List.isSublist_iff_sublist]
  exact List.sublist_append_of_sublist_right (List.Sublist.refl _)

theorem T_C09_partial (v : Variant) (attr : Toks) (item : Item) (out : Out)
    (h : expand v attr item = .ok out) : P_C09 v attr item out.view = true := by
  rcases item with f | m | t | m <;> try rfl
  obtain ⟨a0, h1, _, htr, _⟩ := expandTrait_view h
  simp only [P_C09, effectiveOpts, h1, mainTrait?, htr, List.head?_cons, Bool.and_eq_true]
  refine ⟨⟨⟨?_, ?_⟩, attrs_kept _ t _ _ _ _ _⟩, ?_⟩
  · simp [genTraitDef, traitVisibility, traitTg, traitSup]
  · simp only [genTraitDef, List.all_eq_true, Bool.or_eq_true]
    intro a ha
    rcases List.mem_append.mp ha with ha | ha
    · obtain ⟨_, hnone⟩ := own_of_mem ha
      rcases hk : a.mockKind with _ | k
      · obtain ⟨_, hc⟩ := hnone hk; cases hc
      · exact .inr rfl
    · exact .inl (by simpa using mem_reappliedSubs ha)
  · simpa [genTraitDef] using members_ok t (v.apply a0.opts) t.fns

def witnessOut (t : TraitItem) : Option GenTrait :=
  match expand .plain [] (.trait t) with
  | .ok out => mainTrait? out.view
  | _ => none

def wMethod : TraitFnItem := { sig := { ident := "m", inputs := [.recv [] (some none) false none] } }

/-- `unsafe trait Tr { fn m(&self); }` is re-emitted without `unsafe` (a `GenTrait` has no such field:
    the printed trait starts with its visibility and `trait`) -/
theorem C09_unsafe_dropped :
    ((witnessOut { ident := "Tr", unsafe_ := true, members := [.fn wMethod] }).map (fun g => (g.print.take 2))) =
      some [i "trait", i "Tr"] := by decide +kernel

/-- `trait Tr { fn m(&self) { } }`: the default body is dropped -/
theorem C09_default_dropped :
    F_C09_default (.trait { ident := "Tr", members := [.fn { wMethod with default := some [] }] })
      (match expand .plain [] (.trait { ident := "Tr", members := [.fn { wMethod with default := some [] }] }) with
       | .ok out => out.view | _ => {}) = true := by decide +kernel

/-- `trait Tr { type Out; fn m(&self); }`: the associated type is dropped -/
theorem C09_assoc_dropped :
    F_C09_assoc (.trait { ident := "Tr", members := [.type_ [i "type", i "Out", p ';'], .fn wMethod] })
      (match expand .plain [] (.trait { ident := "Tr", members := [.type_ [i "type", i "Out", p ';'], .fn wMethod] }) with
       | .ok out => out.view | _ => {}) = true := by decide +kernel

end Entrait.C09
