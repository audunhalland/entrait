import EntraitProofs.C18
/-
  C18 read semantically: "cfg-disabled functions of an entraited module or impl block do not leave a
  dangling trait method behind".

  What a build keeps is decided by rustc's evaluation of `cfg` predicates.  That evaluation is
  abstracted as `ev : Toks → Bool` (the tokens inside `#[..]` ↦ whether the predicate holds in the
  build at hand); an item is kept iff every `cfg` attribute on it evaluates to true.  `T_C18_sem_mod`,
  `T_C18_sem_impl`: for every expansion of a module or impl block and *every* evaluation, the methods of the generated
  trait that the build keeps, and the delegating methods it keeps, are — by name, in order — exactly
  the source functions it keeps.  So no build has a method without its function (the dangling method
  of the former finding), and none lacks the method of a function it has.
-/
namespace Entrait.C18Sem
open Entrait

/-- an item with these attributes survives cfg-stripping under the evaluation `ev` -/
def kept (ev : Toks → Bool) (as : List Attr) : Bool := as.all (fun a => !isPlainCfg a || ev a.inner)

/-- names of the generated methods a build keeps -/
def keptMethods (ev : Toks → Bool) (ms : List GenMember) : List String :=
  methodNames (ms.filter (fun m => kept ev m.attrs))

def keptFns (ev : Toks → Bool) (fs : List FnItem) : List String :=
  (fs.filter (fun f => kept ev f.attrs)).map (·.sig.ident)

theorem kept_filter (ev : Toks → Bool) (as : List Attr) : kept ev (as.filter isPlainCfg) = kept ev as := by
  simp [kept, List.all_filter]

theorem keptMethods_eq (ev : Toks → Bool) (ms : List GenMember) :
    keptMethods ev ms = ms.filterMap fun m => if kept ev m.attrs then m.sig?.map (·.ident) else none := by
  rw [keptMethods, methodNames, List.filterMap_filter]

theorem keptMethods_of_zip {α β : Type} (ev : Toks → Bool) (k : α → Bool) (n : α → String) (mk : β → GenMember)
    {xs : List α} {ys : List β} (hl : xs.length = ys.length)
    (h : ∀ xy ∈ xs.zip ys, kept ev (mk xy.2).attrs = k xy.1 ∧ (mk xy.2).sig?.map (·.ident) = some (n xy.1)) :
    keptMethods ev (ys.map mk) = (xs.filter k).map n := by
  rw [keptMethods_eq, filter_map_eq, List.filterMap_map]
  exact (filterMap_eq_of_zip _ _ hl fun xy hxy => by simp [h xy hxy]).symm

theorem keptMethods_map {α : Type} (ev : Toks → Bool) (k : α → Bool) (n : α → String) (mk : α → GenMember) (xs : List α)
    (h : ∀ x ∈ xs, kept ev (mk x).attrs = k x ∧ (mk x).sig?.map (·.ident) = some (n x)) :
    keptMethods ev (xs.map mk) = (xs.filter k).map n := by
  rw [keptMethods_eq, filter_map_eq, List.filterMap_map]
  exact filterMap_congr fun x hx => by simp [h x hx]

/-- modules and impl blocks: the analysed function of a source function has its name and, of its attributes, the
    `cfg` ones -/
theorem kept_traitFn {kind : ReceiverKind} {opts : Opts} {ind : ImplIndirection} {traitRef : Toks} {item : Item}
    {tg : TraitGenerics} {depMode : DepMode} {im : GenImpl} (hd : Delegation kind opts ind traitRef item tg depMode im)
    (hitem : ∀ f, item ≠ .fn f) (ev : Toks → Bool) (mk : TraitFn → GenMember)
    (hmk : ∀ tf, (mk tf).attrs = tf.attrs ∧ (mk tf).sig?.map (·.ident) = some tf.sig.ident) :
    keptMethods ev ((item.traitFns kind opts).map mk) = keptFns ev item.sourceFns := by
  have hfn : item.traitFn kind opts = fun f => (analyzed kind opts f.sig).withCfgOf f.attrs := by
    cases item <;> first | rfl | exact absurd rfl (hitem _)
  rw [Item.traitFns, List.map_map, hfn]
  refine keptMethods_map ev (fun f : FnItem => kept ev f.attrs) (·.sig.ident) _ _ fun f hf => ?_
  have : Attr.isCfgAttr = isPlainCfg := funext C18.isCfgAttr_eq
  simp only [Function.comp, (hmk _).1, (hmk _).2, withCfgOf_attrs, withCfgOf_sig, this, kept_filter, true_and,
    analyzed_ident]

/-- **no dangling method, no missing method**: for every expansion of a module and every evaluation of
    `cfg` predicates, the trait methods and the delegating methods a build keeps are the functions it keeps -/
theorem T_C18_sem_mod (ev : Toks → Bool) (v : Variant) (attr : Toks) (m : ModItemIn) (out : Out)
    (h : expand v attr (.mod_ m) = .ok out) :
    (traitsOf out.view.items).all (fun t => keptMethods ev t.members == keptFns ev (Item.mod_ m).sourceFns) = true ∧
    (implsOf out.view.items).all (fun im => keptMethods ev im.members == keptFns ev (Item.mod_ m).sourceFns) = true := by
  obtain ⟨a, tg, depMode, im, _, hd, htr, him⟩ := expand_fnmod_ok h (.inr rfl)
  simp only [htr, him, List.all_cons, List.all_nil, Bool.and_true, beq_iff_eq, genTraitDef, hd.impl]
  exact ⟨kept_traitFn hd (by simp) ev _ fun tf => ⟨rfl, by simp [GenMember.sig?, makeTraitFnSig_ident]⟩,
    kept_traitFn hd (by simp) ev _ fun tf => ⟨rfl, rfl⟩⟩

/-- the same for an impl block (there is no generated trait: the delegation-target trait is the user's,
    and mirrors the `cfg` attributes of its own methods by `T_C18`) -/
theorem T_C18_sem_impl (ev : Toks → Bool) (v : Variant) (attr : Toks) (m : ImplItemIn) (out : Out)
    (h : expand v attr (.impl m) = .ok out) :
    (implsOf out.view.items).all (fun im => keptMethods ev im.members == keptFns ev (Item.impl m).sourceFns) = true := by
  obtain ⟨a, tg, depMode, im, _, hd, _, him⟩ := expandImpl_view h
  simp only [him, List.all_cons, List.all_nil, Bool.and_true, beq_iff_eq, hd.impl]
  exact kept_traitFn hd (by simp) ev _ fun tf => ⟨rfl, rfl⟩

def keptTraitFns (ev : Toks → Bool) (fs : List TraitFnItem) : List String :=
  (fs.filter (fun f => kept ev f.attrs)).map (·.sig.ident)

/-- entraited traits: every attribute of a method is mirrored, so every build agrees about which methods exist — the
    methods it keeps on the re-emitted trait, on the delegation-target trait (if one is generated) and on the delegating
    impl for `Impl<T>` are exactly the methods of the user's trait that it keeps -/
theorem T_C18_sem_trait (ev : Toks → Bool) (v : Variant) (attr : Toks) (t : TraitItem) (out : Out)
    (h : expand v attr (.trait t) = .ok out) :
    (traitsOf out.view.items).all (fun g =>
      (g.members.filter GenMember.isFn).isEmpty || keptMethods ev g.members == keptTraitFns ev t.fns) = true ∧
    (match mainImpl? out.view with
     | some im => keptMethods ev im.members == keptTraitFns ev t.fns
     | none => false) = true := by
  obtain ⟨a0, _, _, htr, him⟩ := expandTrait_view h
  -- every member list is a `map` over the user's methods
  have hmk : ∀ (mk : TraitFnItem → GenMember), (∀ f, (mk f).attrs = f.attrs ∧ (mk f).sig?.map (·.ident) = some f.sig.ident) →
      keptMethods ev (t.fns.map mk) = keptTraitFns ev t.fns := fun mk hmk =>
    keptMethods_map ev (fun f : TraitFnItem => kept ev f.attrs) (·.sig.ident) _ _ fun f _ => ⟨by rw [(hmk f).1], (hmk f).2⟩
  simp only [htr, him, mainImpl?, List.getLast?_singleton, List.all_eq_true, Bool.or_eq_true, beq_iff_eq]
  refine ⟨fun g hg => ?_, ?_⟩
  · rcases traitMode_members hg with ⟨_, _, rfl⟩ | ⟨sig, hsig, hm⟩
    · exact .inl rfl
    · exact .inr (hm ▸ hmk _ fun f => ⟨rfl, congrArg some (hsig f)⟩)
  · rw [traitImplBlock, List.map_map]
    exact hmk _ fun f => ⟨rfl, rfl⟩

/-! ### the same reading for any output on which the predicates hold (in particular the real macro's)

  `P_C18` and `P_C08` are evaluated on the output of the real macro for every generated case.  The next
  theorem says what that buys: whenever both hold of a view — model or real — the generated trait has,
  in every build, exactly the methods of the functions the build keeps. -/

theorem kept_of_preds (ev : Toks → Bool) : ∀ (fs : List FnItem) (ms : List GenMember),
    memberAttrsOk (fs.map (fun f => f.attrs.filter isPlainCfg)) ms = true →
    methodNames ms = fs.map (·.sig.ident) → ms.length = (methodNames ms).length →
    keptMethods ev ms = keptFns ev fs := by
  intro fs ms ha hn hl
  rw [memberAttrsOk, zipAll_map_left] at ha
  -- as many names as members: every member is a method, and members and functions pair up by name
  have hnames := (map_eq_of_length_filterMap _ ms hl).symm
  rw [← methodNames, hn, List.map_map] at hnames
  have hname := (map_eq_map_iff_zip.mp hnames).2
  rw [← List.map_id ms]
  refine keptMethods_of_zip ev _ _ id (zipAll_length ha) fun xy hxy => ⟨?_, (hname xy hxy).symm⟩
  have := zipAll_forall ha xy hxy
  split at this
  · rename_i as s b hm
    simp only [Bool.and_eq_true, beq_iff_eq] at this
    rw [id, hm, GenMember.attrs, this.1, kept_filter]
  · rename_i ts hm
    have := hname xy hxy
    rw [hm] at this; cases this

theorem T_C18_view_mod (ev : Toks → Bool) (attr : Toks) (m : ModItemIn) (e : Option (List String)) (view : View)
    (h18 : P_C18 (.mod_ m) view = true) (h08 : P_C08 attr (.mod_ m) e view = true) :
    (traitsOf view.inside).all (fun t => keptMethods ev t.members == keptFns ev (Item.mod_ m).sourceFns) = true := by
  dsimp only [P_C08] at h08
  split at h08
  · rename_i a t im hp ht hi
    simp only [Bool.and_eq_true] at h08
    obtain ⟨⟨⟨⟨⟨⟨hnames, _⟩, _⟩, hlen⟩, _⟩, _⟩, _⟩ := h08
    simp only [P_C18, mirroredAttrs, View.items, traitsOf_append, ht, List.cons_append, List.all_cons, Bool.and_eq_true] at h18
    obtain ⟨⟨⟨_, hattrs⟩, _⟩, _⟩ := h18
    rw [ht, List.all_cons, List.all_nil, Bool.and_true, beq_iff_eq]
    exact kept_of_preds ev _ _ hattrs (beq_iff_eq.mp hnames) (beq_iff_eq.mp hlen)
  · cases h08

/-- in `mod m { #[cfg(any())] #[inline] pub fn a(..) {} pub fn c(..) {} }` a build in which
    `any()` is false keeps exactly `c` — function, trait method and delegating method -/
example :
    let ev : Toks → Bool := fun ts => ts != [i "cfg", parens [i "any", parens []]]
    (match expand .plain [i "Foo"] (.mod_ Examples.modCfg) with
     | .ok out => ((traitsOf out.view.items).map (fun t => keptMethods ev t.members),
                   (implsOf out.view.items).map (fun im => keptMethods ev im.members),
                   keptFns ev (Item.mod_ Examples.modCfg).sourceFns)
     | _ => ([], [], [])) = ([["c"]], [["c"]], ["c"]) := by decide +kernel

/-- `#[entrait(CfImpl, delegate_by = ref)] pub trait Cf { #[cfg(any())] fn gone(&self); fn here(&self); }` —
    in a build where `any()` is false the re-emitted trait, the delegation-target trait `CfImpl` and the impl for
    `Impl<T>` all keep exactly `here` -/
example :
    let ev : Toks → Bool := fun ts => ts != [i "cfg", parens [i "any", parens []]]
    (match expand .plain [i "CfImpl", p ',', i "delegate_by", p '=', i "ref"] (.trait Examples.traitCfg) with
     | .ok out => ((traitsOf out.view.items).map (fun t => keptMethods ev t.members),
                   (mainImpl? out.view).map (fun im => keptMethods ev im.members),
                   keptTraitFns ev Examples.traitCfg.fns)
     | _ => ([], none, [])) = ([["here"], ["here"]], some ["here"], ["here"]) := by decide +kernel

end Entrait.C18Sem
