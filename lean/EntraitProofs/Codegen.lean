import EntraitModel.Props
/-
  Facts about the code generators (`EntraitModel/Codegen.lean`).  The attributes on a generated trait: the macro's own
  (the unimock derivation, the nested entrait attribute, the mockall derivation — three shapes, `OwnAttr`) followed by
  what is re-applied from the input, and how the classifiers of the specification (`mockKind`, `unimockArgs`,
  `subKind`) read them.  The declaration of a method in the generated trait (`makeTraitFnSig`); the delegating impl
  (`genImplBlock`, `implParams`).
-/
namespace Entrait

theorem classifyMock_unimock {ts : Toks} (h : classifyMock ts = some .unimock) :
    ∃ x, ts = unimockPath ++ [.group .paren x] := by
  unfold classifyMock stripPrefix at h
  split at h
  · rename_i x hs
    split at hs
    · rename_i hp
      exact ⟨x, by rw [← Option.some.inj hs]; exact (List.prefix_iff_eq_append.mp (List.isPrefixOf_iff_prefix.mp hp)).symm⟩
    · cases hs
  · split at h <;> cases h

theorem classifyMock_automock {ts : Toks} (h : classifyMock ts = some .automock) : ts = mockallPath := by
  unfold classifyMock at h
  split at h
  · cases h
  · split at h
    · exact beq_iff_eq.mp ‹_›
    · cases h

theorem last_of_mockKind {a : Attr} {k : MockKind} {gated : Bool} (h : a.mockKind = some (k, gated)) :
    a.last = some (if gated then "cfg_attr" else match k with | .unimock => "unimock" | .automock => "automock") := by
  unfold Attr.mockKind at h
  split at h
  · rename_i rest hin
    rcases hc : classifyMock rest with _ | k' <;> rw [hc] at h <;> cases h
    simp [Attr.last, hin, pathLastSeg]
  · rcases hc : classifyMock a.inner with _ | k' <;> rw [hc] at h <;> cases h
    cases k
    · obtain ⟨x, hx⟩ := classifyMock_unimock hc
      rw [Attr.last, hx]
      rfl
    · rw [Attr.last, classifyMock_automock hc]
      rfl

/-- an `async_trait` sub-attribute is never one of the macro's mock derivations -/
theorem C10.asyncTrait_not_mock (a : Attr) (h : a.subKind = .asyncTrait) : a.mockKind = none := by
  rcases hk : a.mockKind with _ | ⟨k, gated⟩
  · rfl
  · rw [Attr.subKind, last_of_mockKind hk] at h
    cases gated <;> cases k <;> cases h

theorem unimockArgs_mockKind {a : Attr} {ps : Toks} (h : a.unimockArgs = some ps) : ∃ g, a.mockKind = some (.unimock, g) := by
  unfold Attr.unimockArgs at h
  unfold Attr.mockKind
  split at h <;> split at h <;> cases h <;> rename_i hc
  · exact ⟨true, by simp [beq_iff_eq.mp hc]⟩
  · exact ⟨false, by simp [beq_iff_eq.mp hc]⟩

theorem unimockArgs_subKind (a : Attr) (ps : Toks) (h : a.unimockArgs = some ps) : a.subKind = .other := by
  obtain ⟨g, hg⟩ := unimockArgs_mockKind h
  rw [Attr.subKind, last_of_mockKind hg]
  cases g <;> rfl

/-- the three attributes the macro itself writes on a generated trait (`e`: exporting, i.e. not test-gated) -/
inductive OwnAttr (e : Bool) : Attr → Prop
  | unimock (x : Toks) : OwnAttr e (exportGated e (unimockPath ++ [parens x]))
  | entrait : OwnAttr e entraitForTraitAttr
  | mockall : OwnAttr e (exportGated e mockallPath)

theorem mockKind_unimock (e : Bool) (x : Toks) :
    (exportGated e (unimockPath ++ [parens x])).mockKind = some (.unimock, !e) := by
  cases e <;> rfl

theorem mockKind_mockall (e : Bool) : (exportGated e mockallPath).mockKind = some (.automock, !e) := by
  cases e <;> decide +kernel

theorem mockKind_entraitAttr : entraitForTraitAttr.mockKind = none := by decide +kernel

theorem unimockParams_shape {ind mockApi mode fns ps}
    (h : unimockParams ind mockApi mode fns = some ps) : ∃ x, ps = unimockPath ++ [parens x] := by
  unfold unimockParams at h
  split at h <;> cases h
  exact ⟨_, rfl⟩

theorem own_of_mem {opts : Opts} {ind : TraitIndirection} {mode : InputMode} {fns : List TraitFn} {depMode : DepMode}
    {a : Attr} (h : a ∈ unimockAttrOf opts ind mode fns ++ entraitAttrOf depMode ++ mockallAttrOf opts) :
    OwnAttr opts.exportValue a ∧ (a.mockKind = none → ∃ ty, depMode = .concrete ty) := by
  simp only [List.mem_append] at h
  rcases h with (h | h) | h
  · unfold unimockAttrOf at h
    split at h
    · split at h
      · rename_i ps hp
        obtain ⟨x, rfl⟩ := unimockParams_shape hp
        cases List.mem_singleton.mp h
        exact ⟨.unimock x, by rw [mockKind_unimock]; exact nofun⟩
      · cases h
    · cases h
  · cases depMode <;> simp only [entraitAttrOf, List.mem_singleton, List.mem_nil_iff] at h
    cases h
    exact ⟨.entrait, fun _ => ⟨_, rfl⟩⟩
  · unfold mockallAttrOf at h
    split at h
    · cases List.mem_singleton.mp h
      exact ⟨.mockall, by rw [mockKind_mockall]; exact nofun⟩
    · cases h

namespace OwnAttr
variable {e : Bool} {a : Attr}

theorem mockKind (h : OwnAttr e a) : a = entraitForTraitAttr ∧ a.mockKind = none ∨ ∃ k, a.mockKind = some (k, !e) := by
  cases h
  · exact .inr ⟨_, mockKind_unimock e _⟩
  · exact .inl ⟨rfl, mockKind_entraitAttr⟩
  · exact .inr ⟨_, mockKind_mockall e⟩

theorem owned (h : OwnAttr e a) : entraitOwned a = true := by
  rcases h.mockKind with ⟨rfl, _⟩ | ⟨k, hk⟩
  · simp [entraitOwned]
  · simp [entraitOwned, hk]

theorem subKind_ne (h : OwnAttr e a) : a.subKind ≠ .asyncTrait := by
  rcases h.mockKind with ⟨rfl, _⟩ | ⟨k, hk⟩
  · decide
  · exact fun hs => by rw [C10.asyncTrait_not_mock _ hs] at hk; cases hk

end OwnAttr

theorem mem_reappliedSubs {mode : InputMode} {subs : List Attr} {a : Attr} (h : a ∈ reappliedSubs mode subs) : a ∈ subs := by
  unfold reappliedSubs at h
  split at h
  · exact h
  · exact (List.mem_filter.mp h).1

theorem reappliedSubs_async {mode : InputMode} {subs : List Attr} {a : Attr} (ha : a ∈ subs) (hk : a.subKind = .asyncTrait) :
    a ∈ reappliedSubs mode subs := by
  unfold reappliedSubs
  split
  · exact ha
  · exact List.mem_filter.mpr ⟨ha, by simp [hk]⟩

theorem reappliedSubs_rawTrait (subs : List Attr) : reappliedSubs .rawTrait subs = subs := by
  simp [reappliedSubs]

theorem reappliedSubs_subKind {mode : InputMode} (hmode : mode ≠ .rawTrait) {subs : List Attr} {a : Attr}
    (h : a ∈ reappliedSubs mode subs) : a ∈ subs ∧ (a.subKind = .asyncTrait ∨ a.subKind = .automock) := by
  have hb : (mode == InputMode.rawTrait) = false := by cases mode <;> simp_all
  simpa [reappliedSubs, hb] using h

theorem makeTraitFnSig_eq (s : Sig) (subs : List Attr) (o : Opts) :
    makeTraitFnSig s subs o = declRewritten (containsAsyncTrait subs) o.futureSendValue s := by
  unfold makeTraitFnSig declRewritten
  cases s.async_ <;> cases containsAsyncTrait subs <;> cases o.futureSendValue <;> simp [futureWrapper, joinSep]

theorem makeTraitFnSig_shape (s : Sig) (subs : List Attr) (o : Opts) :
    ∃ a out, makeTraitFnSig s subs o = { s with async_ := a, output := out } := by
  unfold makeTraitFnSig
  split <;> exact ⟨_, _, rfl⟩

@[simp] theorem makeTraitFnSig_inputs (s : Sig) (subs : List Attr) (o : Opts) : (makeTraitFnSig s subs o).inputs = s.inputs := by
  obtain ⟨_, _, h⟩ := makeTraitFnSig_shape s subs o; rw [h]
@[simp] theorem makeTraitFnSig_ident (s : Sig) (subs : List Attr) (o : Opts) : (makeTraitFnSig s subs o).ident = s.ident := by
  obtain ⟨_, _, h⟩ := makeTraitFnSig_shape s subs o; rw [h]
@[simp] theorem makeTraitFnSig_generics (s : Sig) (subs : List Attr) (o : Opts) : (makeTraitFnSig s subs o).generics = s.generics := by
  obtain ⟨_, _, h⟩ := makeTraitFnSig_shape s subs o; rw [h]

/-- the delegating impl, written out -/
def implBlockOf (opts : Opts) (traitRef : Toks) (ind : ImplIndirection) (tg : TraitGenerics) (mode : InputMode)
    (depMode : DepMode) (subAttrs : List Attr) (fns : List TraitFn) : GenImpl :=
  { attrs := subAttrs.filter (fun a => a.subKind == .asyncTrait)
    params := implParams depMode (fns.any (fun tf => tf.sig.takesSelfByValue)) tg.params
    traitRef := traitRef ++ genericArgs ind tg.params
    selfTy := implSelfTy depMode ind opts.mockable
    preds := implWherePreds depMode ind fns tg
    members := fns.map fun tf => .fn tf.attrs tf.sig (some (delegatingBody mode ind tf)) }

theorem genImplBlock_ok {opts : Opts} {traitRef : Toks} {ind : ImplIndirection} {tg : TraitGenerics}
    {mode : InputMode} {depMode : DepMode} {subAttrs : List Attr} {fns : List TraitFn} {im : GenImpl}
    (h : genImplBlock opts traitRef ind tg mode depMode subAttrs fns = .ok im) :
    im = implBlockOf opts traitRef ind tg mode depMode subAttrs fns := by
  unfold genImplBlock at h
  split at h <;> cases h
  rfl

theorem macroParam_generic (bv : Bool) (ps : List GParam) :
    macroParam (implParams .generic bv ps) = some (implTParam bv) := by
  unfold macroParam implParams
  have : (ps.filter GParam.isLifetime).filter (fun q => !q.isLifetime) = [] := by
    simp [List.filter_filter, List.filter_eq_nil_iff]
  simp only [List.filter_append, this, List.nil_append]
  rfl

theorem implTParamOk_generic (bv : Bool) (ps : List GParam) : implTParamOk bv (implParams .generic bv ps) = true := by
  simp [implTParamOk, macroParam_generic, implTParam, entraitT, sameMultiset]

theorem genericArgs_entraitT {ind : ImplIndirection} (hind : ind.isNone = false) (ps : List GParam) :
    ∃ tl, genericArgs ind ps = p '<' :: i entraitT :: tl := by
  unfold genericArgs angle
  cases ps.map GParam.argToks <;> simp [hind, joinSep]

theorem filter_sig_all (fns : List TraitFn) (g : TraitFn → GenMember) (hg : ∀ tf, (g tf).sig?.isSome = true) :
    (fns.map g).filter (fun m => m.sig?.isSome) = fns.map g := by
  apply List.filter_eq_self.mpr
  intro m hm
  obtain ⟨tf, _, rfl⟩ := List.mem_map.mp hm
  exact hg tf

end Entrait
