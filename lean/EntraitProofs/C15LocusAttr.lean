import EntraitProofs.Slices
import EntraitProofs.C17Commas
import EntraitProofs.OptParse
/-
  C15, attribute side: the leaf an attribute-side place designates is an identifier of the
  argument list — the very word the "unknown option" message quotes, or the keyword (for
  `mock_api = X` the name, for `?Send` the `Send`) of the option the target does not support.
-/
namespace Entrait.C15LocusAttr
open Entrait Entrait.C17

def unknownMsg (s : String) : String := s!"Unkonwn entrait option \"{s}\""

theorem unknownOpt_eq (s : String) : unknownOpt s = .diag (unknownMsg s) := rfl

theorem flatten_getElem_left {a : Toks} (b : Toks) {k : Nat} {x : Leaf} (h : (TT.flattenList a)[k]? = some x) :
    (TT.flattenList (a ++ b))[k]? = some x := by
  obtain ⟨hlt, _⟩ := List.getElem?_eq_some_iff.mp h
  rw [flattenList_append, List.getElem?_append_left hlt]
  exact h

theorem flatten_getElem_right (a : Toks) {b : Toks} {k : Nat} {x : Leaf} (h : (TT.flattenList b)[k]? = some x) :
    (TT.flattenList (a ++ b))[flatLen a + k]? = some x := by
  rw [flattenList_append, List.getElem?_append_right (by simp [flatLen])]
  simpa [flatLen] using h

def unsupportedMsg : String := "Unsupported option"

theorem optSegs_err_ne_nil {σ : Type} {set : σ → Opt → Option σ} {st : σ} {segs : List Toks} {e : PErr}
    (h : parseOptSegs set st segs = .error e) : segs ≠ [] := by
  intro hn; subst hn; cases h

/-- The error of the option segments that follow `pre` in an argument list: its place is an identifier leaf of the
    list — the unknown word itself, or the keyword / value of the unsupported option. -/
theorem optSegs_where {σ : Type} (set : σ → Opt → Option σ) :
    ∀ (segs : List Toks) (st : σ) (pre : Toks) (m : String), parseOptSegs set st segs = .error (.diag m) →
      ∃ n x, optSegsLocus set st segs (flatLen pre) = some (.attr n 1) ∧
        (TT.flattenList (pre ++ attrOf segs))[n]? = some (.ident x) ∧ (m = unknownMsg x ∨ m = unsupportedMsg)
  | [], st, pre, m, h => by cases h
  | seg :: rest, st, pre, m, h => by
      rw [parseOptSegs_cons] at h
      rw [optSegsLocus_cons]
      cases hs : segStep set st seg with
      | error e =>
        rw [hs] at h
        cases h
        obtain ⟨x, hleaf, hm⟩ := segStep_diag set hs
        obtain ⟨more, hmore⟩ := joinSep_cons [p ','] seg rest
        refine ⟨_, x, rfl, ?_, hm.imp PErr.diag.inj PErr.diag.inj⟩
        rw [attrOf, hmore, ← List.append_assoc]
        exact flatten_getElem_left _ (flatten_getElem_right pre hleaf)
      | ok st' =>
        rw [hs] at h
        obtain ⟨n, x, hl, hleaf, hm⟩ := optSegs_where set rest st' (pre ++ seg ++ [p ',']) m h
        refine ⟨n, x, ?_, ?_, hm⟩
        · rw [← hl, flatLen_append, flatLen_append]; rfl
        · rwa [attrOf_cons_ne seg (optSegs_err_ne_nil h), ← List.append_assoc, ← List.append_assoc]

/-- the same with the place counted back from the end of the list (`tail`: what is written where `attrOf segs`
    stands, possibly before commas were looked for) -/
theorem optSegs_where_in {σ : Type} (set : σ → Opt → Option σ) {segs : List Toks} {st : σ} {m : String}
    (h : parseOptSegs set st segs = .error (.diag m)) (pre tail : Toks) :
    ∃ n x, optSegsLocus set st segs (flatLen (pre ++ tail) - flatLen tail) = some (.attr n 1) ∧
      (TT.flattenList (pre ++ attrOf segs))[n]? = some (.ident x) ∧ (m = unknownMsg x ∨ m = unsupportedMsg) := by
  rw [flatLen_append, Nat.add_sub_cancel]
  exact optSegs_where set segs st pre m h

theorem optSegs_where_tail {σ : Type} (set : σ → Opt → Option σ) {segs : List Toks} {st : σ} {m : String}
    (h : parseOptSegs set st segs = .error (.diag m)) (seg0 : Toks) :
    ∃ n x, optSegsLocus set st segs (flatLen seg0 + 1) = some (.attr n 1) ∧
      (TT.flattenList (attrOf (seg0 :: segs)))[n]? = some (.ident x) ∧ (m = unknownMsg x ∨ m = unsupportedMsg) := by
  rw [attrOf_cons_ne seg0 (optSegs_err_ne_nil h)]
  exact flatLen_append seg0 [p ','] ▸ optSegs_where set segs st (seg0 ++ [p ',']) m h

theorem attrOf_append_head (a b : Toks) (segs : List Toks) : attrOf ((a ++ b) :: segs) = a ++ attrOf (b :: segs) := by
  cases segs with
  | nil => simp [attrOf, joinSep]
  | cons y ys => simp [attrOf, joinSep, List.append_assoc]

/-- **fn / mod attribute**: the diagnostic of the argument parser points at an identifier of the
    argument list — the unknown word the message quotes, or the keyword of the unsupported option -/
theorem T_C15_attr_where_fn (ts : Toks) (m : String) (h : parseFnAttr ts = .error (.diag m)) :
    ∃ n x, fnAttrLocus ts = some (.attr n 1) ∧ (TT.flattenList ts)[n]? = some (.ident x) ∧
      (m = unknownMsg x ∨ m = unsupportedMsg) := by
  unfold parseFnAttr at h
  unfold fnAttrLocus
  have hts := attrOf_splitCommas ts
  cases hsp : splitCommas ts with
  | nil => rw [hsp] at h; simp [parseFnSegs] at h
  | cons seg0 segs =>
    rw [hsp] at h hts
    obtain hsyn | ⟨vis, name, hX⟩ := parseFnSegs_head seg0
    · rw [hsyn] at h; cases h
    · rw [(hX segs).1] at h
      rw [(hX segs).2]
      cases ho : parseOptSegs Opts.setFn {} segs with
      | ok o => rw [ho] at h; cases h
      | error e =>
        rw [ho] at h
        cases h
        exact hts ▸ optSegs_where_tail Opts.setFn ho seg0

/-- **trait attribute** -/
theorem T_C15_attr_where_trait (ts : Toks) (m : String) (h : parseTraitAttr ts = .error (.diag m)) :
    ∃ n x, traitAttrLocus ts = some (.attr n 1) ∧ (TT.flattenList ts)[n]? = some (.ident x) ∧
      (m = unknownMsg x ∨ m = unsupportedMsg) := by
  unfold parseTraitAttr at h
  unfold traitAttrLocus
  cases hemp : ts.isEmpty
  case true => rw [hemp, if_pos rfl] at h; cases h
  rw [hemp, if_neg (by simp)] at h
  rw [if_neg (by simp)]
  have hts := attrOf_splitCommas ts
  match hsp : splitCommas ts with
  | [] => rw [hsp] at h; cases h
  | seg0 :: segs =>
    rw [hsp] at h hts
    obtain ⟨_, hp, hl⟩ | hsyn | ⟨vis, name, rest0, hv, hc⟩ := parseTraitSegs_cases seg0
    · rw [parseTraitSegs_of_opt hp] at h
      rw [hl]
      exact hts ▸ optSegs_where TraitAttr.set (seg0 :: segs) {} [] m h
    · rw [hsyn] at h; cases h
    · rw [(hc segs).1] at h
      rw [(hc segs).2]
      have hprint := parseVis_print hv
      unfold traitTail at h ⊢
      cases hr0 : rest0.isEmpty <;> rw [hr0] at h <;>
        simp only [Bool.not_false, Bool.not_true, if_true, Bool.false_eq_true, if_false] at h ⊢
      · -- options follow the target trait without a comma
        have hseg : seg0 = (vis ++ [TT.ident name]) ++ rest0 := by rw [← hprint]; simp
        rw [← hts, hseg, attrOf_append_head]
        exact optSegs_where_in TraitAttr.set h _ rest0
      · cases hs1 : segs == [[]] <;> rw [hs1] at h
        · simp only [Bool.false_eq_true, if_false] at h ⊢
          exact hts ▸ optSegs_where_tail TraitAttr.set h seg0
        · cases h

theorem stripKw_suffix (k : String) (ts : Toks) : ∃ pre, ts = pre ++ (stripKw k ts).2 := by
  unfold stripKw
  split
  · split
    · exact ⟨[_], rfl⟩
    · exact ⟨[], rfl⟩
  · exact ⟨[], rfl⟩

/-- **impl-block attribute** -/
theorem T_C15_attr_where_impl (ts : Toks) (m : String) (h : parseImplAttr ts = .error (.diag m)) :
    ∃ n x, implAttrLocus ts = some (.attr n 1) ∧ (TT.flattenList ts)[n]? = some (.ident x) ∧
      (m = unknownMsg x ∨ m = unsupportedMsg) := by
  unfold parseImplAttr parseImplOpts at h
  unfold implAttrLocus
  simp only at h ⊢
  split at h
  · cases h
  · rename_i hne
    simp only [hne, Bool.false_eq_true, if_false]
    obtain ⟨p1, h1⟩ := stripKw_suffix "ref" ts
    obtain ⟨p2, h2⟩ := stripKw_suffix "dyn" (stripKw "ref" ts).2
    have := optSegs_where_in ImplAttr.set h (p1 ++ p2) (stripKw "dyn" (stripKw "ref" ts).2).2
    rwa [attrOf_splitCommas, List.append_assoc, ← h2, ← h1] at this

end Entrait.C15LocusAttr
