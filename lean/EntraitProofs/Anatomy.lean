import EntraitProofs.Analysis
import EntraitProofs.Codegen
import EntraitProofs.Params
/-
  What an accepted expansion consists of, per input mode.  Every property theorem starts here: the generated
  methods are a `map` over the source functions, the trait's generics the concatenation of what the
  signatures lift, and the generated items of the view are written out.
-/
namespace Entrait

@[simp] theorem ofPErr_ne_ok (e : PErr) (out : Out) : Outcome.ofPErr e ≠ .ok out := by
  cases e <;> simp [Outcome.ofPErr]

@[simp] theorem ofErr_ne_ok (e : PErr ⊕ String) (out : Out) : Outcome.ofErr e ≠ .ok out := by
  rcases e with (_ | _) | _ <;> simp [Outcome.ofErr]

theorem implsOf_trait_impl (t : GenTrait) (im : GenImpl) (rest : List GenItem) :
    implsOf (.trait t :: .impl im :: rest) = im :: implsOf rest := rfl

/-! ### fn, mod and impl-block inputs -/

/-- the code generators' input mode of an item -/
def Item.inputMode : Item → InputMode
  | .fn _ => .singleFn | .mod_ _ => .module | .trait _ => .rawTrait | .impl _ => .implBlock

theorem Item.identOk_of_mem {item : Item} (hid : item.identsOk = true) {f : FnItem} (hf : f ∈ item.sourceFns) :
    identOk f.sig.ident = true ∧ (item.inputMode = .implBlock → unraw f.sig.ident ≠ "__impl") := by
  rcases item with _ | _ | _ | _
  · exact ⟨List.all_eq_true.mp hid f hf, nofun⟩
  · exact ⟨List.all_eq_true.mp hid f hf, nofun⟩
  · cases hf
  · have := List.all_eq_true.mp hid f hf
    simp only [Bool.and_eq_true, bne_iff_ne] at this
    exact ⟨this.1, fun _ => this.2⟩

/-- fn and mod inputs are told from the others by the input mode -/
theorem Item.fnmod_cases {item : Item} (hm : item.inputMode = .singleFn ∨ item.inputMode = .module) :
    (∃ f, item = .fn f) ∨ ∃ m, item = .mod_ m := by
  rcases item with f | m | t | m
  · exact .inl ⟨f, rfl⟩
  · exact .inr ⟨m, rfl⟩
  · rcases hm with hm | hm <;> cases hm
  · rcases hm with hm | hm <;> cases hm

theorem Item.not_fnmod_cases {item : Item} (hm : ¬(item.inputMode = .singleFn ∨ item.inputMode = .module)) :
    (∃ t, item = .trait t) ∨ ∃ m, item = .impl m := by
  rcases item with f | m | t | m
  · exact absurd (.inl rfl) hm
  · exact absurd (.inr rfl) hm
  · exact .inl ⟨t, rfl⟩
  · exact .inr ⟨m, rfl⟩

/-- the trait function of a source function: its analysis, carrying the function's `cfg` attributes in a
    module or impl block (a single function keeps its attributes to itself) -/
def Item.traitFn (item : Item) (kind : ReceiverKind) (opts : Opts) (f : FnItem) : TraitFn :=
  match item with
  | .fn _ => analyzed kind opts f.sig
  | _ => (analyzed kind opts f.sig).withCfgOf f.attrs

def Item.traitFns (item : Item) (kind : ReceiverKind) (opts : Opts) : List TraitFn :=
  item.sourceFns.map (item.traitFn kind opts)

/-- the same before the mirroring -/
def Item.analyzedFns (item : Item) (kind : ReceiverKind) (opts : Opts) : List TraitFn :=
  (item.sourceFns.map (·.sig)).map (analyzed kind opts)

@[simp] theorem Item.traitFn_sig (item : Item) (kind : ReceiverKind) (opts : Opts) (f : FnItem) :
    (item.traitFn kind opts f).sig = (analyzed kind opts f.sig).sig := by cases item <;> rfl
@[simp] theorem Item.traitFn_deps (item : Item) (kind : ReceiverKind) (opts : Opts) (f : FnItem) :
    (item.traitFn kind opts f).deps = (analyzed kind opts f.sig).deps := by cases item <;> rfl

/-- what `expandFn`, `expandMod` and `expandImpl` share once the attribute is parsed and the body split -/
structure Delegation (kind : ReceiverKind) (opts : Opts) (ind : ImplIndirection) (traitRef : Toks) (item : Item)
    (tg : TraitGenerics) (depMode : DepMode) (im : GenImpl) : Prop where
  analysis : analyzeFns kind opts (item.sourceFns.map (·.sig)) {} = .ok (item.analyzedFns kind opts, tg)
  mode : detectDepMode item.inputMode (item.traitFns kind opts) = .ok depMode
  impl : im =
    { attrs := item.attrs.filter (fun a => a.subKind == .asyncTrait)
      params := implParams depMode ((item.traitFns kind opts).any (fun tf => tf.sig.takesSelfByValue)) tg.params
      traitRef := traitRef ++ genericArgs ind tg.params
      selfTy := implSelfTy depMode ind opts.mockable
      preds := implWherePreds depMode ind (item.traitFns kind opts) tg
      members := (item.traitFns kind opts).map fun tf => .fn tf.attrs tf.sig (some (delegatingBody item.inputMode ind tf)) }

namespace Delegation
variable {kind : ReceiverKind} {opts : Opts} {ind : ImplIndirection} {traitRef : Toks} {item : Item}
  {tg : TraitGenerics} {depMode : DepMode} {im : GenImpl} (d : Delegation kind opts ind traitRef item tg depMode im)
include d

theorem analyzedFn {f : FnItem} (hf : f ∈ item.sourceFns) :
    analyzeFn kind opts f.sig {} = .ok (Entrait.analyzed kind opts f.sig, .add {} (f.sig.lifted opts.noDepsValue)) :=
  (analyzeFns_ok d.analysis).2.2 f.sig (List.mem_map_of_mem hf)

theorem generics : tg = TraitGenerics.add {} (liftedAll opts.noDepsValue (item.sourceFns.map (·.sig))) :=
  (analyzeFns_ok d.analysis).2.1

/-- the header of the impl does not see the mirrored attributes: it is that of the analysed functions -/
theorem header_eq :
    detectDepMode item.inputMode (item.analyzedFns kind opts) = .ok depMode ∧
    im.params = implParams depMode ((item.analyzedFns kind opts).any (·.sig.takesSelfByValue)) tg.params ∧
    im.selfTy = implSelfTy depMode ind opts.mockable ∧
    im.preds = implWherePreds depMode ind (item.analyzedFns kind opts) tg := by
  have hfns : item.analyzedFns kind opts = item.sourceFns.map fun f => analyzed kind opts f.sig := List.map_map
  have hd := d.mode
  rw [Item.traitFns, detectDepMode_map_congr _ (item.traitFn_deps kind opts), ← hfns] at hd
  have hb : depsBounds (item.traitFns kind opts) = depsBounds (item.analyzedFns kind opts) := by
    rw [Item.traitFns, depsBounds_map_congr (item.traitFn_deps kind opts), ← hfns]
  refine ⟨hd, ?_, by rw [d.impl], by simp only [d.impl, implWherePreds, hb]⟩
  simp [d.impl, hfns, Item.traitFns, Function.comp_def]

theorem members_eq : im.members = item.sourceFns.map fun f =>
    .fn (item.traitFn kind opts f).attrs (Entrait.analyzed kind opts f.sig).sig
      (some (delegatingBody item.inputMode ind (Entrait.analyzed kind opts f.sig))) := by
  rw [d.impl, Item.traitFns, List.map_map]
  exact List.map_congr_left fun f _ => by cases item <;> rfl

/-- unless the dependency of a single function is concrete, the delegating impl has the macro's parameter (first after
    the lifetimes) and is for `EntraitT`, `Impl<EntraitT>` or the impl block's own type -/
theorem header : concreteFn item = true ∨
    (∃ bv, macroParam im.params = some (implTParam bv)) ∧ im.selfTy = implSelfTy .generic ind opts.mockable := by
  rcases detectDepMode_ok d.mode with ⟨rfl, _⟩ | ⟨hm, ty, _, tf, htf, hty⟩
  · exact .inr ⟨⟨_, by rw [d.impl, macroParam_generic]⟩, by rw [d.impl]⟩
  · obtain ⟨f, hf, rfl⟩ := List.mem_map.mp htf
    rw [Item.traitFn_deps] at hty
    cases item <;> cases hm
    cases List.mem_singleton.mp hf
    exact .inl (specDeps_concrete hty).2.1

end Delegation

/-- what `expandFn`, `expandMod` and `expandImpl` do once the attribute is parsed and the body split: analyse the
    functions, find the dependency mode, generate the impl, assemble (`k`) -/
def fnsTail (kind : ReceiverKind) (mode : InputMode) (opts : Opts) (sigs : List Sig) (as : List (List Attr))
    (traitRef : Toks) (ind : ImplIndirection) (subAttrs : List Attr)
    (k : List TraitFn → TraitGenerics → DepMode → GenImpl → Out) : Outcome :=
  match analyzeFns kind opts sigs {} with
  | .error e => .ofErr e
  | .ok (fns, tg) =>
    match detectDepMode mode (attachCfg as fns) with
    | .error e => .ofErr e
    | .ok depMode =>
      match genImplBlock opts traitRef ind tg mode depMode subAttrs (attachCfg as fns) with
      | .error site => .panic site
      | .ok im => .ok (k (attachCfg as fns) tg depMode im)

theorem genImplBlock_of_allPlain {opts traitRef ind tg mode depMode subAttrs} {fns : List TraitFn}
    (h : ∀ tf ∈ fns, allPlain tf.sig.inputs = true) :
    genImplBlock opts traitRef ind tg mode depMode subAttrs fns =
      .ok (implBlockOf opts traitRef ind tg mode depMode subAttrs fns) := by
  have : fns.any (fun tf => hasNonIdentParam tf.sig.inputs) = false :=
    List.any_eq_false.mpr fun tf htf => by simp [hasNonIdent_of_allPlain _ (h tf htf)]
  simp only [genImplBlock, this]
  rfl

/-- The tail as a total function of the signatures: the first signature the dependency analysis rejects decides; else
    the dependency mode of the analysed functions; else it succeeds — `genImplBlock` cannot fail, because every
    parameter of an analysed function is a plain identifier (`allPlain_fixParams`).  In particular it never panics
    unless `detectDepMode` does. -/
theorem fnsTail_eq (kind : ReceiverKind) (mode : InputMode) (opts : Opts) (sigs : List Sig) (as : List (List Attr))
    (traitRef : Toks) (ind : ImplIndirection) (subAttrs : List Attr)
    (k : List TraitFn → TraitGenerics → DepMode → GenImpl → Out) :
    fnsTail kind mode opts sigs as traitRef ind subAttrs k =
      match sigs.findSome? (fun s => if opts.noDepsValue then none else depsError s) with
      | some m => .diag m
      | none =>
        match detectDepMode mode (sigs.map (analyzed kind opts)) with
        | .error e => .ofErr e
        | .ok d =>
          .ok (k (attachCfg as (sigs.map (analyzed kind opts))) (.add {} (liftedAll opts.noDepsValue sigs)) d
            (implBlockOf opts traitRef ind (.add {} (liftedAll opts.noDepsValue sigs)) mode d subAttrs
              (attachCfg as (sigs.map (analyzed kind opts))))) := by
  rw [fnsTail, analyzeFns_eq]
  cases sigs.findSome? (fun s => if opts.noDepsValue then none else depsError s) with
  | some m => rfl
  | none =>
    simp only [detectDepMode_attachCfg]
    cases detectDepMode mode (sigs.map (analyzed kind opts)) with
    | error e => rfl
    | ok d =>
      have hplain := all_attachCfg (fun tf => allPlain tf.sig.inputs = true) (fun _ _ h => h) as (sigs.map (analyzed kind opts))
        fun tf htf => by obtain ⟨s, _, rfl⟩ := List.mem_map.mp htf; exact allPlain_fixParams _ _
      simp only [genImplBlock_of_allPlain hplain]

theorem expandFn_eq (v : Variant) (attr : Toks) (f : FnItem) :
    expandFn v attr f =
      match parseFnAttr attr with
      | .error e => .ofPErr e
      | .ok a => fnsTail .selfRef .singleFn (v.apply a.opts) [f.sig] [] [i a.traitIdent] .none f.attrs
          (fun fns tg d im => .fnOut f
            [.trait (genTraitDef (v.apply a.opts) .plain d f.attrs a.traitVis a.traitIdent tg {} fns .singleFn), .impl im]) := by
  unfold expandFn fnsTail
  cases parseFnAttr attr with
  | error e => rfl
  | ok a =>
    simp only [analyzeFns]
    cases analyzeFn .selfRef (v.apply a.opts) f.sig {} <;> rfl

theorem expandMod_eq (v : Variant) (attr : Toks) (m : ModItemIn) :
    expandMod v attr m =
      match splitBody false m.oracle m.body.length m.body with
      | .error e => .ofPErr e
      | .ok items =>
        match parseFnAttr attr with
        | .error e => .ofPErr e
        | .ok a => fnsTail .selfRef .module (v.apply a.opts) ((items.filterMap BodyItem.fn?).map (·.sig)) (bodyFnAttrs items)
            [i a.traitIdent] .none m.attrs
            (fun fns tg d im => .modOut m items
              [.trait (genTraitDef (v.apply a.opts) .plain d m.attrs a.traitVis a.traitIdent tg {} fns .module), .impl im]
              [.raw (a.traitVis ++ [i "use", i m.ident] ++ pathSep ++ [i a.traitIdent, p ';'])]) := rfl

theorem expandImpl_eq (v : Variant) (attr : Toks) (m : ImplItemIn) :
    expandImpl v attr m =
      match splitBody true m.oracle m.body.length m.body with
      | .error e => .ofPErr e
      | .ok items =>
        match parseImplAttr attr with
        | .error e => .ofPErr e
        | .ok a => fnsTail (if a.dynRef then .dynamicImpl else .staticImpl) .implBlock (v.apply a.opts)
            ((items.filterMap BodyItem.fn?).map (·.sig)) (bodyFnAttrs items) m.traitPath
            (if a.dynRef then .dynamic m.selfTy else .static_ m.selfTy) m.attrs
            (fun _ _ _ im => .implOut
              (printAttrs (m.attrs.filter (fun a => a.subKind != .asyncTrait)) ++
                (if m.unsafe_ then [i "unsafe"] else []) ++ [i "impl"] ++ m.selfTy ++ [braces (items.flatMap BodyItem.print)])
              [.impl im]) := rfl

theorem fnsTail_ok {kind : ReceiverKind} {opts : Opts} {ind : ImplIndirection} {traitRef : Toks} {item : Item}
    {as : List (List Attr)} {k : List TraitFn → TraitGenerics → DepMode → GenImpl → Out} {out : Out}
    (has : attachCfg as (item.analyzedFns kind opts) = item.traitFns kind opts)
    (h : fnsTail kind item.inputMode opts (item.sourceFns.map (·.sig)) as traitRef ind item.attrs k = .ok out) :
    ∃ tg depMode im, Delegation kind opts ind traitRef item tg depMode im ∧ out = k (item.traitFns kind opts) tg depMode im := by
  rw [fnsTail_eq, ← Item.analyzedFns, has] at h
  split at h
  · cases h
  · rename_i hnone
    split at h
    · cases ofErr_ne_ok _ _ h
    · rename_i depMode h3
      cases h
      exact ⟨_, depMode, _, ⟨by rw [analyzeFns_eq, hnone]; rfl, by rw [← has, detectDepMode_attachCfg]; exact h3, rfl⟩, rfl⟩

theorem traitFns_of_body {item : Item} {items : List BodyItem} (hitem : ∀ f, item ≠ .fn f)
    (hsrc : item.sourceFns = items.filterMap BodyItem.fn?) (kind : ReceiverKind) (opts : Opts) :
    attachCfg (bodyFnAttrs items) (item.analyzedFns kind opts) = item.traitFns kind opts := by
  rw [bodyFnAttrs, Item.analyzedFns, hsrc, List.map_map, attachCfg_map, Item.traitFns, hsrc]
  cases item <;> first | rfl | exact absurd rfl (hitem _)

theorem expandFn_ok {v : Variant} {attr : Toks} {f : FnItem} {out : Out} (h : expandFn v attr f = .ok out) :
    ∃ a tg depMode im,
      parseFnAttr attr = .ok a ∧
      Delegation .selfRef (v.apply a.opts) .none [i a.traitIdent] (.fn f) tg depMode im ∧
      out = .fnOut f
        [.trait (genTraitDef (v.apply a.opts) .plain depMode f.attrs a.traitVis a.traitIdent tg {}
          ((Item.fn f).traitFns .selfRef (v.apply a.opts)) .singleFn), .impl im] := by
  rw [expandFn_eq] at h
  split at h
  · cases ofPErr_ne_ok _ _ h
  · rename_i a h1
    obtain ⟨tg, depMode, im, d, rfl⟩ := fnsTail_ok (item := .fn f) rfl h
    exact ⟨a, tg, depMode, im, h1, d, rfl⟩

theorem expandMod_ok {v : Variant} {attr : Toks} {m : ModItemIn} {out : Out} (h : expandMod v attr m = .ok out) :
    ∃ items a tg depMode im,
      splitBody false m.oracle m.body.length m.body = .ok items ∧
      parseFnAttr attr = .ok a ∧
      Delegation .selfRef (v.apply a.opts) .none [i a.traitIdent] (.mod_ m) tg depMode im ∧
      out = .modOut m items
        [.trait (genTraitDef (v.apply a.opts) .plain depMode m.attrs a.traitVis a.traitIdent tg {}
          ((Item.mod_ m).traitFns .selfRef (v.apply a.opts)) .module), .impl im]
        [.raw (a.traitVis ++ [i "use", i m.ident] ++ pathSep ++ [i a.traitIdent, p ';'])] := by
  rw [expandMod_eq] at h
  split at h
  · cases ofPErr_ne_ok _ _ h
  · rename_i items h0
    split at h
    · cases ofPErr_ne_ok _ _ h
    · rename_i a h1
      have hsrc : (Item.mod_ m).sourceFns = items.filterMap BodyItem.fn? := by simp [Item.sourceFns, h0]
      rw [← hsrc] at h
      obtain ⟨tg, depMode, im, d, rfl⟩ := fnsTail_ok (item := .mod_ m) (traitFns_of_body (by simp) hsrc _ _) h
      exact ⟨items, a, tg, depMode, im, h0, h1, d, rfl⟩

theorem expandImpl_ok {v : Variant} {attr : Toks} {m : ImplItemIn} {out : Out} (h : expandImpl v attr m = .ok out) :
    ∃ items a tg depMode im,
      splitBody true m.oracle m.body.length m.body = .ok items ∧
      parseImplAttr attr = .ok a ∧
      Delegation (if a.dynRef then .dynamicImpl else .staticImpl) (v.apply a.opts)
        (if a.dynRef then .dynamic m.selfTy else .static_ m.selfTy) m.traitPath (.impl m) tg depMode im ∧
      out = .implOut
        (printAttrs (m.attrs.filter (fun a => a.subKind != .asyncTrait)) ++
          (if m.unsafe_ then [i "unsafe"] else []) ++ [i "impl"] ++ m.selfTy ++ [braces (items.flatMap BodyItem.print)])
        [.impl im] := by
  rw [expandImpl_eq] at h
  split at h
  · cases ofPErr_ne_ok _ _ h
  · rename_i items h0
    split at h
    · cases ofPErr_ne_ok _ _ h
    · rename_i a h1
      have hsrc : (Item.impl m).sourceFns = items.filterMap BodyItem.fn? := by simp [Item.sourceFns, h0]
      rw [← hsrc] at h
      obtain ⟨tg, depMode, im, d, rfl⟩ := fnsTail_ok (item := .impl m) (traitFns_of_body (by simp) hsrc _ _) h
      exact ⟨items, a, tg, depMode, im, h0, h1, d, rfl⟩

theorem expandMod_of_expand {v : Variant} {attr : Toks} {m : ModItemIn} {out : Out} (h : expand v attr (.mod_ m) = .ok out) :
    m.unsafe_ = false ∧ expandMod v attr m = .ok out := by
  rw [expand] at h
  cases hu : m.unsafe_ with
  | true => rw [hu, if_pos rfl] at h; cases h
  | false => rw [hu, if_neg Bool.false_ne_true] at h; exact ⟨rfl, h⟩

/-- fn and mod inputs seen alike: one generated trait and one impl, over the source functions -/
theorem expand_fnmod_ok {v : Variant} {attr : Toks} {item : Item} {out : Out} (h : expand v attr item = .ok out)
    (hm : item.inputMode = .singleFn ∨ item.inputMode = .module) :
    ∃ a tg depMode im,
      parseFnAttr attr = .ok a ∧
      Delegation .selfRef (v.apply a.opts) .none [i a.traitIdent] item tg depMode im ∧
      traitsOf out.view.items =
        [genTraitDef (v.apply a.opts) .plain depMode item.attrs a.traitVis a.traitIdent tg {}
          (item.traitFns .selfRef (v.apply a.opts)) item.inputMode] ∧
      implsOf out.view.items = [im] := by
  obtain ⟨f, rfl⟩ | ⟨m, rfl⟩ := Item.fnmod_cases hm
  · obtain ⟨a, tg, depMode, im, h1, hd, rfl⟩ := expandFn_ok h
    exact ⟨a, tg, depMode, im, h1, hd, rfl, rfl⟩
  · obtain ⟨items, a, tg, depMode, im, _, h1, hd, rfl⟩ := expandMod_ok (expandMod_of_expand h).2
    exact ⟨a, tg, depMode, im, h1, hd, rfl, rfl⟩

theorem expandImpl_view {v : Variant} {attr : Toks} {m : ImplItemIn} {out : Out} (h : expand v attr (.impl m) = .ok out) :
    ∃ a tg depMode im,
      parseImplAttr attr = .ok a ∧
      Delegation (if a.dynRef then .dynamicImpl else .staticImpl) (v.apply a.opts)
        (if a.dynRef then .dynamic m.selfTy else .static_ m.selfTy) m.traitPath (.impl m) tg depMode im ∧
      traitsOf out.view.items = [] ∧ implsOf out.view.items = [im] := by
  obtain ⟨items, a, tg, depMode, im, _, h1, d, rfl⟩ := expandImpl_ok h
  exact ⟨a, tg, depMode, im, h1, d, rfl, rfl⟩

/-- every input but a trait is expanded through some delegation, and the impl it yields is the only one;
    there is an indirection only for an impl block, through its self type -/
theorem expand_delegation {v : Variant} {attr : Toks} {item : Item} {out : Out} (h : expand v attr item = .ok out)
    (hi : ∀ t, item ≠ .trait t) :
    ∃ kind opts ind traitRef tg depMode im,
      Delegation kind opts ind traitRef item tg depMode im ∧ implsOf out.view.items = [im] ∧
      (ind = .none ∨ ∃ m, item = .impl m ∧ (ind = .static_ m.selfTy ∨ ind = .dynamic m.selfTy)) := by
  rcases item with f | m | t | m
  · obtain ⟨a, tg, depMode, im, _, d, _, him⟩ := expand_fnmod_ok h (.inl rfl)
    exact ⟨_, _, _, _, tg, depMode, im, d, him, .inl rfl⟩
  · obtain ⟨a, tg, depMode, im, _, d, _, him⟩ := expand_fnmod_ok h (.inr rfl)
    exact ⟨_, _, _, _, tg, depMode, im, d, him, .inl rfl⟩
  · exact absurd rfl (hi t)
  · obtain ⟨a, tg, depMode, im, _, d, _, him⟩ := expandImpl_view h
    exact ⟨_, _, _, _, tg, depMode, im, d, him, .inr ⟨m, rfl, by cases a.dynRef <;> simp⟩⟩

/-! ### trait inputs

  The pieces of a trait-mode expansion, as functions of the trait: `traitTg`, `traitSup`, `traitImplSubAttrs`,
  `traitContainsAsync`, `traitFnOf`, `traitImplBlock`; `targetTrait` and `delegationTraits` below. -/

def traitTg (t : TraitItem) : TraitGenerics :=
  { params := t.generics.params, preds := t.generics.preds, wtrail := t.generics.wtrail }
def traitSup (t : TraitItem) : Supertraits := { colon := t.colon, bounds := t.supertraits, trailing := t.strail }
def traitImplSubAttrs (t : TraitItem) : List Attr := t.attrs.filter (fun a => a.subKind == .asyncTrait)
def traitContainsAsync (t : TraitItem) : Bool :=
  t.members.any (fun m => match m with | .fn f => f.sig.async_ | _ => false)

def traitFnOf (f : TraitFnItem) : TraitFn :=
  { deps := .noDeps, attrs := f.attrs, sig := f.sig, originallyAsync := f.sig.async_ }

/-- the bound that makes `T` a provider of the trait, by delegation shape -/
def providerBound (a : TraitAttr) (ca : Bool) (ident : String) (tg : TraitGenerics) : Toks :=
  match a.implTrait, a.delegation with
  | some _, some (.byTrait d) => [i d, p '<', i entraitT, p '>']
  | some (_, it), some (.byRef b) => (if b then borrowPath else asRefPath) ++ [p '<'] ++ dynTarget it ca ++ [p '>']
  | none, some (.byRef b) =>
      (if b then borrowPath else asRefPath) ++ [p '<', i "dyn"] ++ ([i ident] ++ genericArgs .none tg.params) ++ [p '>']
  | _, _ => [i ident] ++ genericArgs .none tg.params

theorem traitImplTBounds_shape (a : TraitAttr) (ca : Bool) (ident : String) (tg : TraitGenerics) :
    ∃ extras, traitImplTBounds a ca ident tg = providerBound a ca ident tg :: extras ∧
      ∀ e ∈ extras, e ∈ fixedExtras := by
  unfold traitImplTBounds providerBound
  rcases a.implTrait with _ | ⟨iv, it⟩ <;> rcases a.delegation with _ | _ | b | d <;> cases ca <;>
    exact ⟨_, rfl, by simp [fixedExtras]⟩

def traitImplBlock (attr : TraitAttr) (t : TraitItem) (fns : List TraitFn) : GenImpl :=
  { attrs := traitImplSubAttrs t
    params := implParams .generic false (traitTg t).params
    traitRef := [i t.ident] ++ genericArgs .none (traitTg t).params
    selfTy := implPathToks
    preds := .ty [] entraitTTy (traitImplTBounds attr (traitContainsAsync t) t.ident (traitTg t)) false :: (traitTg t).preds
    members := fns.map (delegationMethod attr (traitContainsAsync t)) }

theorem analyzeTraitMembers_ok : ∀ {ms : List TraitMember} {fns : List TraitFn},
    analyzeTraitMembers ms = .ok fns → fns = (ms.filterMap TraitMember.fn?).map traitFnOf
  | [], _, h => by cases h; rfl
  | .fn f :: rest, fns, h => by
      unfold analyzeTraitMembers at h
      split at h <;> cases h
      rename_i r hr
      simp [TraitMember.fn?, traitFnOf, analyzeTraitMembers_ok hr]
  | .type_ _ :: rest, fns, h => analyzeTraitMembers_ok (ms := rest) h
  | .other _ :: _, _, h => by cases h

/-- the delegation-target trait `implIdent<EntraitT, ..>: 'static`: the user's trait again, without mock derivations,
    its methods converted to take `__impl` -/
def targetTrait (a : TraitAttr) (t : TraitItem) (ind : TraitIndirection) (conv : TraitFn → TraitFn) (implIdent : String) :
    GenTrait :=
  let g := genTraitDef (noMockOpts a.opts) ind .generic (traitImplSubAttrs t) t.vis implIdent
    { traitTg t with params := entraitTParam :: t.generics.params } staticSup ((t.fns.map traitFnOf).map conv) .rawTrait
  { g with attrs := traitImplSubAttrs t ++ g.attrs }

/-- the traits generated next to an entraited trait: the delegation-target trait and, for static dispatch, the
    selector trait -/
def delegationTraits (a : TraitAttr) (t : TraitItem) : List GenTrait :=
  match a.implTrait, a.delegation with
  | some (_, implIdent), some (.byTrait d) => [targetTrait a t .staticImpl staticImplFn implIdent, selectorTrait d implIdent]
  | some (_, implIdent), some (.byRef _) => [targetTrait a t .dynamicImpl dynamicImplFn implIdent]
  | _, _ => []

theorem staticImplFn_shape (tf : TraitFn) : ∃ ins tr, staticImplFn tf = { tf with sig := { tf.sig with inputs := ins, itrail := tr } } := by
  unfold staticImplFn
  split <;> exact ⟨_, _, rfl⟩

theorem dynamicImplFn_shape (tf : TraitFn) : ∃ ins tr, dynamicImplFn tf = { tf with sig := { tf.sig with inputs := ins, itrail := tr } } := by
  unfold dynamicImplFn
  split <;> exact ⟨_, _, rfl⟩

theorem mem_delegationTraits {a : TraitAttr} {t : TraitItem} {g : GenTrait} (h : g ∈ delegationTraits a t) :
    (∃ d implIdent, g = selectorTrait d implIdent) ∨
    ∃ ind conv implIdent, (∀ tf, ∃ ins tr, conv tf = { tf with sig := { tf.sig with inputs := ins, itrail := tr } }) ∧
      g = targetTrait a t ind conv implIdent := by
  unfold delegationTraits at h
  split at h <;> simp only [List.mem_cons, List.mem_nil_iff, or_false] at h
  · rcases h with rfl | rfl
    · exact .inr ⟨_, _, _, staticImplFn_shape, rfl⟩
    · exact .inl ⟨_, _, rfl⟩
  · exact .inr ⟨_, _, _, dynamicImplFn_shape, h⟩

/-- a trait generated for an entraited trait is the selector trait, or declares the trait's methods again: one
    declaration for each, under its name and attributes -/
theorem traitMode_members {o : Opts} {a : TraitAttr} {t : TraitItem} {g : GenTrait}
    (h : g ∈ genTraitDef o .trait .generic t.attrs t.vis t.ident (traitTg t) (traitSup t) (t.fns.map traitFnOf) .rawTrait ::
      delegationTraits a t) :
    (∃ d implIdent, g = selectorTrait d implIdent) ∨
    ∃ sig : TraitFnItem → Sig, (∀ f, (sig f).ident = f.sig.ident) ∧ g.members = t.fns.map fun f => .fn f.attrs (sig f) none := by
  rcases List.mem_cons.mp h with rfl | h
  · exact .inr ⟨fun f => makeTraitFnSig f.sig t.attrs o, fun f => makeTraitFnSig_ident .., by simp [genTraitDef, traitFnOf]⟩
  · rcases mem_delegationTraits h with hsel | ⟨ind, conv, implIdent, hconv, rfl⟩
    · exact .inl hsel
    · refine .inr ⟨fun f => makeTraitFnSig (conv (traitFnOf f)).sig (traitImplSubAttrs t) (noMockOpts a.opts), fun f => ?_, ?_⟩
      · obtain ⟨ins, tr, h⟩ := hconv (traitFnOf f)
        rw [makeTraitFnSig_ident, h]; rfl
      · simp only [targetTrait, genTraitDef, List.map_map]
        exact List.map_congr_left fun f _ => by
          obtain ⟨ins, tr, h⟩ := hconv (traitFnOf f)
          simp only [Function.comp, h]; rfl

theorem expandTrait_ok {v : Variant} {attr : Toks} {t : TraitItem} {out : Out} (h : expandTrait v attr t = .ok out) :
    ∃ a0, parseTraitAttr attr = .ok a0 ∧ delegationMisuses a0.implTrait a0.delegation = [] ∧
      out = .traitOut
        (.trait (genTraitDef (v.apply a0.opts) .trait .generic t.attrs t.vis t.ident (traitTg t) (traitSup t)
            (t.fns.map traitFnOf) .rawTrait) ::
          ((delegationTraits { a0 with opts := v.apply a0.opts } t).map .trait ++
            [.impl (traitImplBlock { a0 with opts := v.apply a0.opts } t (t.fns.map traitFnOf))])) := by
  unfold expandTrait at h
  split at h
  · cases ofPErr_ne_ok _ _ h
  · rename_i a0 h1
    dsimp only at h
    split at h
    · cases h
    · rename_i hcustom
      split at h
      · cases ofPErr_ne_ok _ _ h
      · rename_i fns h2
        cases analyzeTraitMembers_ok h2
        split at h
        · cases ofPErr_ne_ok _ _ h
        · rename_i delegation h3
          cases h
          refine ⟨a0, h1, ?_⟩
          unfold genDelegationTraitDefs at h3
          unfold delegationTraits
          revert h3 hcustom
          rcases a0.implTrait with _ | ⟨_, implIdent⟩
          · rcases a0.delegation with _ | _ | _ | _ <;> intro hc h3 <;> cases h3 <;>
              first | exact ⟨rfl, rfl⟩ | cases hc _ rfl rfl
          · rcases a0.delegation with _ | _ | _ | _ <;> intro _ h3 <;> cases h3 <;> exact ⟨rfl, rfl⟩

theorem traitsOf_append (xs ys : List GenItem) : traitsOf (xs ++ ys) = traitsOf xs ++ traitsOf ys := by
  induction xs with
  | nil => rfl
  | cons x rest ih => cases x <;> simp [traitsOf, ih]

theorem implsOf_append (xs ys : List GenItem) : implsOf (xs ++ ys) = implsOf xs ++ implsOf ys := by
  induction xs with
  | nil => rfl
  | cons x rest ih => cases x <;> simp [implsOf, ih]

theorem traitsOf_map_trait (ts : List GenTrait) : traitsOf (ts.map .trait) = ts := by
  induction ts <;> simp_all [traitsOf]

theorem implsOf_map_trait (ts : List GenTrait) : implsOf (ts.map .trait) = [] := by
  induction ts <;> simp_all [implsOf]

/-- the generated items of an entraited trait: the trait again, the delegation traits, one impl for `Impl<EntraitT>` -/
theorem expandTrait_view {v : Variant} {attr : Toks} {t : TraitItem} {out : Out} (h : expand v attr (.trait t) = .ok out) :
    ∃ a0, parseTraitAttr attr = .ok a0 ∧ delegationMisuses a0.implTrait a0.delegation = [] ∧
      traitsOf out.view.items =
        genTraitDef (v.apply a0.opts) .trait .generic t.attrs t.vis t.ident (traitTg t) (traitSup t)
            (t.fns.map traitFnOf) .rawTrait :: delegationTraits { a0 with opts := v.apply a0.opts } t ∧
      implsOf out.view.items = [traitImplBlock { a0 with opts := v.apply a0.opts } t (t.fns.map traitFnOf)] := by
  obtain ⟨a0, h1, h2, rfl⟩ := expandTrait_ok h
  exact ⟨a0, h1, h2, by simp [Out.view, View.items, Out.inside, Out.after, traitsOf, traitsOf_append, traitsOf_map_trait],
    by simp [Out.view, View.items, Out.inside, Out.after, implsOf, implsOf_append, implsOf_map_trait]⟩

end Entrait
