import EntraitProofs.Anatomy
/-
  What the generated method signature of an fn / mod input looks like (receiver kind `selfRef`).
-/
namespace Entrait

/-- the method generated for one function of an fn / mod input -/
structure FnModeSpec (opts : Opts) (sig : Sig) (tf : TraitFn) : Prop where
  ident : tf.sig.ident = sig.ident
  async_ : tf.sig.async_ = sig.async_
  origAsync : tf.originallyAsync = sig.async_
  output : tf.sig.output = sig.output
  attrs : tf.attrs = []
  depsNoDeps : (tf.deps = .noDeps) ↔ opts.noDepsValue = true
  /-- a receiver, then the renamed user parameters -/
  inputs : ∃ r, tf.sig.inputs = .recv [] r false none ::
      fixParams sig.ident ((sig.userParams opts.noDepsValue).map FnArg.stripAttrs)
  /-- `&self` / `&'a self` for a dependency taken by reference, `self` for one taken by value -/
  recv : tf.sig.inputs.head? = expectedReceiver opts.noDepsValue sig

theorem fnModeSpec {opts : Opts} {sig : Sig} {tg tg' : TraitGenerics} {tf : TraitFn}
    (h : analyzeFn .selfRef opts sig tg = .ok (tf, tg')) : FnModeSpec opts sig tf := by
  obtain ⟨deps, r, tr, hr, hd, rfl⟩ := analyzeFn_closed h
  exact ⟨rfl, rfl, rfl, rfl, rfl, hd, ⟨r, fixParams_cons_recv ..⟩,
    hr ▸ congrArg List.head? (fixParams_cons_recv ..)⟩

theorem FnModeSpec.names {opts : Opts} {sig : Sig} {tf : TraitFn} (hs : FnModeSpec opts sig tf)
    (hid : identOk sig.ident = true) :
    NamesSpec sig.ident [] (typedArgs (sig.userParams opts.noDepsValue)) tf.sig.inputs := by
  obtain ⟨r, hin⟩ := hs.inputs
  exact namesSpec_of_typed hid (by rw [hin, typedArgs_cons_recv, typedArgs_fixParams, typedArgs_map_strip])

end Entrait
