import EntraitProofs.Analysis
import EntraitProofs.Codegen
import EntraitProofs.Params
/-
  The header of the delegating impl — the macro's own parameter (`Send` iff a dependency is taken by value), the type
  it is for, the where clause — read off the analysis of the source signatures; for fn / mod inputs and for impl blocks.
  C03, C04 and C07 evaluate their predicates on it.
-/
namespace Entrait

/-- `Send` is asked of `EntraitT` when a method takes `self` by value: the method of an accepted signature does so iff
    the dependency is taken by value and becomes the receiver (not so for static dispatch, where it becomes `__impl`) -/
theorem takesSelfByValue_analyzed (kind : ReceiverKind) {opts : Opts} {s : Sig}
    (hacc : (if opts.noDepsValue then none else depsError s) = none) :
    (analyzed kind opts s).sig.takesSelfByValue =
      (match kind with | .staticImpl => false | _ => !opts.noDepsValue && s.depByValue) := by
  obtain ⟨r, hr, _, hin⟩ := analyzed_inputs kind hacc
  have hbv : r.isNone = (!opts.noDepsValue && s.depByValue) := by
    revert hr
    unfold expectedReceiver Sig.depByValue
    cases opts.noDepsValue
    · rcases s.inputs with _ | ⟨_ | ⟨_, _, _ | _ | _ | _ | _⟩, _⟩ <;> intro hr <;> cases hr <;> rfl
    · intro hr; cases hr; rfl
  unfold Sig.takesSelfByValue
  rw [hin]
  cases kind
  · rw [modeReceivers, List.cons_append, fixParams_cons_recv, ← hbv]; cases r <;> rfl
  · obtain ⟨p0, rest, hX⟩ := fixParams_cons_typed s.ident [] (.ident false false "__impl" none)
      (.ref_ r.join false implPathTy) ([] ++ (s.userParams opts.noDepsValue).map FnArg.stripAttrs)
    rw [modeReceivers, List.cons_append, show implReceiverWith r.join = .typed [] _ _ from rfl, hX]
  · rw [modeReceivers, List.cons_append, fixParams_cons_recv, ← hbv]; cases r <;> rfl

theorem deps_of_not_concrete {kind : ReceiverKind} {o : Opts} {s : Sig} {tg tg' : TraitGenerics} {tf : TraitFn}
    (h : analyzeFn kind o s tg = .ok (tf, tg')) (hnc : ∀ ty, tf.deps ≠ .concrete ty) :
    tf.deps = (if o.noDepsValue then .noDeps else .generic s.depGenericName s.declaredDepBounds) ∧
    (o.noDepsValue = false → s.depIsConcrete = false) := by
  rcases analyzeFn_deps_cases h with ⟨hn, hd⟩ | ⟨hn, _, _, _, _, _, ⟨_, hd⟩ | ⟨hc, hd⟩⟩
  · simp [hn, hd]
  · exact absurd hd (hnc _)
  · simp [hn, hd, hc]

theorem wherePredsOk_intro {target : Ty} {declared : List Toks} {user preds : List WherePred} (h : ∀ q ∈ preds, q ∈ user) :
    wherePredsOk target declared user
      ((if declared.isEmpty then [] else [.ty [] target declared false]) ++ preds) = true := by
  unfold wherePredsOk
  cases declared.isEmpty <;> simpa [sameMultiset_refl] using h

/-- the where clause of the delegating impl in generic dependency mode: iff a bound is declared on a dependency
    parameter, one predicate on `Self` / `Impl<EntraitT>` with the declared bounds; then predicates the user wrote -/
theorem wherePreds_generic {kind : ReceiverKind} {o : Opts} {sigs : List Sig} {fns : List TraitFn} {tg : TraitGenerics}
    (han : analyzeFns kind o sigs {} = .ok (fns, tg)) (hnc : ∀ tf ∈ fns, ∀ ty, tf.deps ≠ .concrete ty)
    (ind : ImplIndirection) :
    (o.noDepsValue = false → sigs.any Sig.depIsConcrete = false) ∧
    wherePredsOk (if ind.isNone then selfTy_ else implPathTy)
      (if o.noDepsValue then [] else sigs.flatMap Sig.declaredDepBounds) (sigs.flatMap (·.generics.preds))
      (implWherePreds .generic ind fns tg) = true := by
  obtain ⟨rfl, rfl, hall⟩ := analyzeFns_ok han
  have hper : ∀ s ∈ sigs, (analyzed kind o s).deps =
      (if o.noDepsValue then .noDeps else .generic s.depGenericName s.declaredDepBounds) ∧
      (o.noDepsValue = false → s.depIsConcrete = false) := fun s hs =>
    deps_of_not_concrete (hall s hs) (hnc _ (List.mem_map_of_mem hs))
  have hdeps : depsBounds (sigs.map (analyzed kind o)) = if o.noDepsValue then [] else sigs.flatMap Sig.declaredDepBounds := by
    rw [depsBounds_eq, List.flatMap_map, List.flatMap_def, List.flatMap_def,
      List.map_congr_left (g := fun s => if o.noDepsValue then [] else s.declaredDepBounds) fun s hs => by
        rw [(hper s hs).1]; cases o.noDepsValue <;> rfl]
    cases o.noDepsValue <;> simp
  have huser : ∀ q ∈ (TraitGenerics.add {} (liftedAll o.noDepsValue sigs)).preds, q ∈ sigs.flatMap (·.generics.preds) := by
    simp only [TraitGenerics.add, liftedAll, List.nil_append, List.mem_flatMap]
    exact fun q ⟨s, hs, hq⟩ => ⟨s, hs, (mem_lifted_preds hq).1⟩
  rw [implWherePreds, hdeps]
  exact ⟨fun hn => List.any_eq_false.mpr fun s hs => by simp [(hper s hs).2 hn], wherePredsOk_intro huser⟩

theorem header_fnmod {o : Opts} {mode : InputMode} {sigs : List Sig} {fns : List TraitFn} {tg : TraitGenerics}
    {depMode : DepMode} {im : GenImpl}
    (han : analyzeFns .selfRef o sigs {} = .ok (fns, tg)) (hdm : detectDepMode mode fns = .ok depMode)
    (hp : im.params = implParams depMode (fns.any (·.sig.takesSelfByValue)) tg.params)
    (hs : im.selfTy = implSelfTy depMode .none o.mockable) (hw : im.preds = implWherePreds depMode .none fns tg) :
    fnImplHeaderOk o sigs im = true := by
  obtain ⟨hfns, _, hall⟩ := analyzeFns_ok han
  rcases detectDepMode_ok hdm with ⟨rfl, hnc⟩ | ⟨_, ty, _, tf, htf, hty⟩
  · -- generic mode: the `Send` of the macro's parameter and the `Self:` predicate, read off the signatures
    obtain ⟨hc, hw'⟩ := wherePreds_generic han hnc .none
    have hbv : fns.any (·.sig.takesSelfByValue) = (!o.noDepsValue && sigs.any Sig.depByValue) := by
      rw [hfns]
      exact any_map_and fun s hs => takesSelfByValue_analyzed .selfRef (analyzeFn_ok (hall s hs)).1
    rw [fnImplHeaderOk, hp, hs, hw, hbv]
    cases hn : o.noDepsValue <;> simp [hn, ImplIndirection.isNone] at hc hw' <;>
      simp [implTParamOk_generic, implSelfTy, hw']
  · -- a concrete dependency: the predicate asks nothing (C05 speaks of this case)
    subst hfns
    obtain ⟨s, hs, rfl⟩ := List.mem_map.mp htf
    obtain ⟨hn, hc, _⟩ := specDeps_concrete hty
    have : sigs.any Sig.depIsConcrete = true := List.any_eq_true.mpr ⟨s, hs, hc⟩
    simp [fnImplHeaderOk, hn, this]

/-- the header of the delegating impl of an impl-block input, clause by clause: it is for the block's own type, of the
    block's trait at `<EntraitT ..`, with the macro's parameter and the where clause of generic dependency mode -/
theorem header_implBlock {o : Opts} {dyn : Bool} (hn : o.noDepsValue = false) {traitRef selfTy : Toks}
    {sigs : List Sig} {fns : List TraitFn} {tg : TraitGenerics} {depMode : DepMode} {im : GenImpl}
    (han : analyzeFns (if dyn then .dynamicImpl else .staticImpl) o sigs {} = .ok (fns, tg))
    (hdm : detectDepMode .implBlock fns = .ok depMode)
    (hp : im.params = implParams depMode (fns.any (·.sig.takesSelfByValue)) tg.params)
    (hr : im.traitRef = traitRef ++ genericArgs (if dyn then .dynamic selfTy else .static_ selfTy) tg.params)
    (hs : im.selfTy = implSelfTy depMode (if dyn then .dynamic selfTy else .static_ selfTy) o.mockable)
    (hw : im.preds = implWherePreds depMode (if dyn then .dynamic selfTy else .static_ selfTy) fns tg) :
    im.selfTy = selfTy ∧
    (traitRef ++ [p '<', i entraitT]).isPrefixOf im.traitRef = true ∧
    implTParamOk (dyn && sigs.any Sig.depByValue) im.params = true ∧
    wherePredsOk implPathTy (sigs.flatMap Sig.declaredDepBounds) (sigs.flatMap (·.generics.preds)) im.preds = true := by
  obtain ⟨hfns, _, hall⟩ := analyzeFns_ok han
  have hind : (if dyn then ImplIndirection.dynamic selfTy else .static_ selfTy).isNone = false := by cases dyn <;> rfl
  rcases detectDepMode_ok hdm with ⟨rfl, hnc⟩ | ⟨hc, _⟩
  · obtain ⟨_, hw'⟩ := wherePreds_generic han hnc (if dyn then .dynamic selfTy else .static_ selfTy)
    have hbv : fns.any (·.sig.takesSelfByValue) = (dyn && sigs.any Sig.depByValue) := by
      rw [hfns]
      exact any_map_and fun s hs => by
        rw [takesSelfByValue_analyzed _ (analyzeFn_ok (hall s hs)).1, hn]; cases dyn <;> rfl
    obtain ⟨tl, htl⟩ := genericArgs_entraitT hind tg.params
    refine ⟨by rw [hs]; cases dyn <;> rfl, ?_, by rw [hp, hbv]; exact implTParamOk_generic .., ?_⟩
    · rw [hr, htl, List.isPrefixOf_iff_prefix]
      exact ⟨tl, by simp⟩
    · rw [hw]
      simpa [hn, hind] using hw'
  · cases hc

end Entrait
