import EntraitProofs.Params
/-
  C20 — expansion is a pure function of (attribute, item).

  The model's `expand : Variant → Toks → Item → Outcome` is a total Lean function: it has no
  other input, so on the model side there is nothing to prove about processes, environment or
  earlier invocations — that the *implementation* agrees with this function, in fresh processes,
  with different thread counts, shuffled invocation order and perturbed environment, is what the
  correspondence check of C20 establishes on every run.

  What can depend on a hash seed in the implementation is one thing only: the `HashSet<String>` of
  reserved names in `fn_params.rs::fix_fn_param_idents`.  `T_C20_set_irrelevant` proves that the
  generated parameter names depend on that set **only through membership**: replacing the model's
  list by any other list with the same members — any iteration order, any duplication, hence any
  hash seed — yields the same parameters; and the fuel that bounds the model's search loops is
  irrelevant as soon as it exceeds the size of the set (`C20.firstFree_least`, in Params.lean), so the bounded model
  search is the implementation's unbounded recursion (`rename_ident`, `generate_ident`).
-/
namespace Entrait.C20
open Entrait

/-- both sides are the least free candidate (`firstFree_spec`), and being free is a matter of membership -/
theorem firstFree_set_irrelevant (c : Nat → String) (hinj : ∀ a b, c a = c b → a = b) (t1 t2 : List String)
    (hm : ∀ x, x ∈ t1 ↔ x ∈ t2) (f1 f2 n : Nat) (h1 : t1.length < f1) (h2 : t2.length < f2) :
    firstFree c t1 f1 n = firstFree c t2 f2 n := by
  obtain ⟨k1, hk1, e1, hfree1, hb1⟩ := firstFree_spec c hinj t1 n h1
  obtain ⟨k2, hk2, e2, hfree2, hb2⟩ := firstFree_spec c hinj t2 n h2
  rw [e1, e2]
  rcases Nat.lt_trichotomy k1 k2 with h | h | h
  · exact absurd ((hm _).mpr (hb2 k1 hk1 h)) hfree1
  · rw [h]
  · exact absurd ((hm _).mp (hb1 k2 hk2 h)) hfree2

theorem genIdent_set (index : Nat) (t1 t2 : List String) (hm : ∀ x, x ∈ t1 ↔ x ∈ t2) :
    genIdent index t1 (t1.length + 1) 0 = genIdent index t2 (t2.length + 1) 0 := by
  rw [genIdent_eq, genIdent_eq]
  exact firstFree_set_irrelevant _ (genCand_inj index) t1 t2 hm _ _ 0 (Nat.lt_succ_self _) (Nat.lt_succ_self _)

theorem renameIdent_set (base : String) (t1 t2 : List String) (hm : ∀ x, x ∈ t1 ↔ x ∈ t2) :
    renameIdent base t1 (t1.length + 1) 1 = renameIdent base t2 (t2.length + 1) 1 := by
  rw [renameIdent_eq, renameIdent_eq]
  exact firstFree_set_irrelevant _ (renCand_inj base) t1 t2 hm _ _ 1 (Nat.lt_succ_self _) (Nat.lt_succ_self _)

theorem mem_cons_congr {a : String} {t1 t2 : List String} (hm : ∀ x, x ∈ t1 ↔ x ∈ t2) :
    ∀ x, x ∈ a :: t1 ↔ x ∈ a :: t2 := by
  intro x; simp [hm x]

/-- **the reserved-name set is used through membership only**: the naming loop of
    `fix_fn_param_idents` (its last) produces the same parameters for any two representations of the set -/
theorem T_C20_set_irrelevant (fnName : String) : ∀ (args : List FnArg) (idx : Nat) (t1 t2 : List String),
    (∀ x, x ∈ t1 ↔ x ∈ t2) → nameArgs fnName idx t1 args = nameArgs fnName idx t2 args
  | [], _, _, _, _ => by simp [nameArgs]
  | .recv a r m c :: rest, idx, t1, t2, hm => by
      simp only [nameArgs]
      rw [T_C20_set_irrelevant fnName rest idx t1 t2 hm]
  | .typed attrs (.ident r m name sub) ty :: rest, idx, t1, t2, hm => by
      simp only [nameArgs]
      split
      · rw [renameIdent_set fnName t1 t2 hm, T_C20_set_irrelevant fnName rest (idx + 1) _ _ (mem_cons_congr hm)]
      · rw [T_C20_set_irrelevant fnName rest (idx + 1) t1 t2 hm]
  | .typed attrs (.other toks bs) ty :: rest, idx, t1, t2, hm => by
      simp only [nameArgs]
      rw [genIdent_set idx t1 t2 hm, T_C20_set_irrelevant fnName rest (idx + 1) _ _ (mem_cons_congr hm)]

/-- in particular every enumeration of the reserved set (a permutation, with or without repeats)
    gives the parameters `fixParams` computes -/
theorem T_C20_fixParams_any_order (fnIdent : String) (inputs : List FnArg) (set' : List String)
    (hm : ∀ x, x ∈ set' ↔ x ∈ unraw fnIdent :: keptIdents (unraw fnIdent) (inputs.map FnArg.liftPat)) :
    nameArgs (unraw fnIdent) 0 set' (inputs.map FnArg.liftPat) = fixParams fnIdent inputs := by
  unfold fixParams
  exact T_C20_set_irrelevant _ _ 0 _ _ hm

/-- two enumerations of {`foo`, `a`, `b`}, one with a repeat -/
example :
    nameArgs "foo" 0 ["b", "foo", "a", "b"]
      [.typed [] (.ident false false "foo" none) (.other []), .typed [] (.other [] []) (.other [])] =
    nameArgs "foo" 0 ["foo", "a", "b"]
      [.typed [] (.ident false false "foo" none) (.other []), .typed [] (.other [] []) (.other [])] :=
  T_C20_set_irrelevant "foo" _ 0 _ _ (by
    intro x
    simp only [List.mem_cons, List.mem_nil_iff, or_false]
    constructor
    · rintro (h | h | h | h) <;> simp [h]
    · rintro (h | h | h) <;> simp [h])

end Entrait.C20
