import EntraitProofs.C07
import EntraitProofs.C06Sem
/-
  C07 read semantically: *`Impl<T>` reaches the selected implementation block*.

  `T_C07` pins the tokens of the three places static dependency inversion is spread over:
    (1) the where clause of `impl Trait for Impl<EntraitT>`:  `EntraitT: D<EntraitT> + Sync + 'static`,
    (2) the selector trait:  `pub trait D<T> { type Target: I<T>; }`,
    (3) every method body:   `<EntraitT::Target as I<EntraitT>>::m(self, p…)`.
  This file adds the step from those tokens to what the call reaches, over an abstract *world* of user impls
  that does not need rustc:
    * `selects d app`    — the `Target` the application `app` names in its `impl D<App> for App`;
    * `block it ty`      — the implementation block `impl I<T> for ty` (written with `#[entrait] impl I for ty`).
  A world is *coherent for* a selector trait when every selected `Target` has a block of the trait the
  selector trait bounds `Target` by (rustc enforces exactly this when it checks the user's `impl D<App>`).

  `T_C07_sem`: for `expand`'s output on a trait with `delegate_by = D` and delegation-target trait `I`, in
  every world coherent for the generated selector trait, for every application that meets the where clause
  (has a selection for `D`): every method of the `Impl<T>` impl dispatches to a block — the block
  `block I (selects D app)`, i.e. *the one the application selected* — under the method's own name, passing
  `self` (the same `&Impl<T>`) and the method's parameters in order.  Two applications that select
  different blocks reach different blocks through the same generated impl (`reaches_differ`).

  `T_C07_view`: the same for any view on which `P_C07` holds, i.e. for the real macro's output on every
  case where the driver evaluated `P_C07` to 1.
-/
namespace Entrait.C07Sem
open Entrait

/-- the user's impls, abstractly -/
structure World where
  selects : String → Nat → Option Nat       -- selector trait name, application ↦ its `Target`
  block   : String → Nat → Option Nat       -- delegation-target trait name, type ↦ the impl block

/-- the bound the selector trait puts on `Target`: `type Target: I<T>;` -/
def targetBound (sel : GenTrait) : Option String :=
  match sel.members with
  | [.raw [.ident "type", .ident "Target", .punct ':', .ident it, .punct '<', .ident "T", .punct '>', .punct ';']] => some it
  | _ => none

/-- rustc accepted every `impl D<App> for App { type Target = X; }`: `X` implements the bound of `Target` -/
def Coherent (w : World) (sel : GenTrait) : Prop :=
  ∀ it, targetBound sel = some it → ∀ app ty, w.selects sel.ident app = some ty → (w.block it ty).isSome

/-- the selector trait the where clause of the impl requires of `EntraitT` -/
def requiredSelector (im : GenImpl) : Option String :=
  match im.preds.head? with
  | some (.ty [] _ ((.ident d :: _) :: _) _) => some d
  | _ => none

/-- what a statically dispatched body `<EntraitT::Target as I<EntraitT>>::m(..)` reaches for application `app`
    whose selector is `d` -/
def reaches (w : World) (d : String) (app : Nat) : DelegShape → Option Nat
  | .staticTarget it => (w.selects d app).bind (w.block it)
  | _ => none

-- `by rfl`, not the term: the match on string literals is dear to evaluate, and for the term `rfl` Lean does it twice
theorem targetBound_selectorTrait (d it : String) : targetBound (selectorTrait d it) = some it := by rfl

theorem T_C07_view (attr : Toks) (t : TraitItem) (view : View) (h : P_C07 attr (.trait t) view = true)
    (a : TraitAttr) (ha : parseTraitAttr attr = .ok a) (ip : Toks) (it d : String)
    (hit : a.implTrait = some (ip, it)) (hd : a.delegation = some (.byTrait d)) :
    ∃ main dt sel im, traitsOf view.items = [main, dt, sel] ∧ mainImpl? view = some im ∧
      -- the three sites agree on the names
      sel.ident = d ∧ targetBound sel = some it ∧ dt.ident = it ∧ requiredSelector im = some d ∧
      -- every method forwards to the selected block
      (∀ (w : World), Coherent w sel → ∀ app ty, w.selects d app = some ty →
        ∀ sm ∈ t.fns.zip im.members,
          ∃ attrs g body, sm.2 = .fn attrs g (some body) ∧ g.ident = sm.1.sig.ident ∧
            body = specDelegBody (.staticTarget it) sm.1.sig.ident (paramIdents g.inputs) sm.1.sig.async_ ∧
            reaches w d app (.staticTarget it) = w.block it ty ∧ (w.block it ty).isSome) := by
  simp only [P_C07, ha] at h
  split at h
  · rename_i a' main rest im hpa htr him
    cases hpa
    simp only [P_C07_trait, hit, hd] at h
    split at h
    · rename_i dt sel
      simp only [Bool.and_eq_true, beq_iff_eq] at h
      obtain ⟨⟨⟨⟨⟨hdt, _⟩, rfl⟩, _⟩, hfw⟩, hpred⟩ := h
      simp only [delegTraitHeaderOk, Bool.and_eq_true, beq_iff_eq] at hdt
      refine ⟨main, dt, _, im, htr, him, rfl, targetBound_selectorTrait d it, hdt.1.1.1.1, by simp [requiredSelector, hpred, i], ?_⟩
      intro w hco app ty hsel sm hsm
      obtain ⟨attrs, g, body, hm, hid, hbody⟩ := C06Sem.forwardsAll_inv hfw sm hsm
      refine ⟨attrs, g, body, hm, hid, ?_, by simp [reaches, hsel], hco it (targetBound_selectorTrait d it) app ty hsel⟩
      rw [hbody]; simp [expectedShape, hit, hd]
    · simp at h
  · cases h

theorem T_C07_sem (v : Variant) (attr : Toks) (t : TraitItem) (out : Out) (h : expand v attr (.trait t) = .ok out)
    (a : TraitAttr) (ha : parseTraitAttr attr = .ok a) (ip : Toks) (it d : String)
    (hit : a.implTrait = some (ip, it)) (hd : a.delegation = some (.byTrait d)) :
    ∃ main dt sel im, traitsOf out.view.items = [main, dt, sel] ∧ mainImpl? out.view = some im ∧
      sel.ident = d ∧ targetBound sel = some it ∧ dt.ident = it ∧ requiredSelector im = some d ∧
      (∀ (w : World), Coherent w sel → ∀ app ty, w.selects d app = some ty →
        ∀ sm ∈ t.fns.zip im.members,
          ∃ attrs g body, sm.2 = .fn attrs g (some body) ∧ g.ident = sm.1.sig.ident ∧
            body = specDelegBody (.staticTarget it) sm.1.sig.ident (paramIdents g.inputs) sm.1.sig.async_ ∧
            reaches w d app (.staticTarget it) = w.block it ty ∧ (w.block it ty).isSome) :=
  T_C07_view attr t out.view (C07.T_C07_trait v attr t out h) a ha ip it d hit hd

theorem reaches_differ (w : World) (d it : String) (app1 app2 ty1 ty2 b1 b2 : Nat)
    (h1 : w.selects d app1 = some ty1) (h2 : w.selects d app2 = some ty2)
    (hb1 : w.block it ty1 = some b1) (hb2 : w.block it ty2 = some b2) (hne : b1 ≠ b2) :
    reaches w d app1 (.staticTarget it) ≠ reaches w d app2 (.staticTarget it) := by
  simp [reaches, h1, h2, hb1, hb2, hne]

/-- a coherent world with two applications selecting two blocks -/
example :
    let w : World := { selects := fun d app => if d == "DelegateFoo" then (if app == 0 then some 10 else some 11) else none,
                       block := fun it ty => if it == "FooImpl" then some (ty + 100) else none }
    Coherent w (selectorTrait "DelegateFoo" "FooImpl") ∧
    reaches w "DelegateFoo" 0 (.staticTarget "FooImpl") = some 110 ∧
    reaches w "DelegateFoo" 1 (.staticTarget "FooImpl") = some 111 := by
  refine ⟨?_, by decide +kernel, by decide +kernel⟩
  intro it hit app ty _
  have : it = "FooImpl" := by
    have := targetBound_selectorTrait "DelegateFoo" "FooImpl"
    rw [this] at hit; exact (Option.some.inj hit).symm
  subst this
  simp

end Entrait.C07Sem
