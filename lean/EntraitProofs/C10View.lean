import EntraitModel.Props
/-
  `C10Sem.T_C10_sem`, stated for *any view on which `P_C10` holds*: what a build contains is read off the predicate
  alone, so the conclusion transfers to the real macro's output on every case where the driver evaluated `P_C10` to 1.
-/
namespace Entrait.C10Sem
open Entrait

/-- is the derivation `(kind, gated)` active in a build with `cfg(test) = test`? -/
def activeIn (test : Bool) (d : MockKind × Bool) : Bool := !d.2 || test

theorem expected_gated (mode : Mode) (o : Opts) : ∀ d ∈ expectedMockKinds mode o, d.2 = !o.exportValue := by
  intro d hd
  simp only [expectedMockKinds, List.mem_append, List.mem_ite_nil_right, List.mem_singleton] at hd
  rcases hd with ⟨_, rfl⟩ | ⟨_, rfl⟩ <;> rfl

theorem T_C10_view (v : Variant) (attr : Toks) (item : Item) (view : View) (hp : P_C10 v attr item view = true)
    (o : Opts) (ho : effectiveOpts v attr item = some o) (huser : userMockKinds item = [])
    (t : GenTrait) (rest : List GenTrait) (ht : traitsOf view.items = t :: rest) (hmode : item.mode ≠ .impl) :
    (o.exportValue = false → ∀ g ∈ t :: rest, (mockKinds g).filter (activeIn false) = []) ∧
    ((mockKinds t).filter (activeIn true) = expectedMockKinds item.mode o) ∧
    (o.exportValue = true → ∀ test, (mockKinds t).filter (activeIn test) = expectedMockKinds item.mode o) := by
  unfold P_C10 at hp
  rw [ho, ht] at hp
  obtain ⟨hm1, hm2⟩ : mockKinds t = expectedMockKinds item.mode o ∧ ∀ d ∈ rest, mockKinds d = [] := by
    split at hp
    · rename_i hm; exact absurd hm hmode
    · rename_i ho' ht' _
      cases ho'; cases ht'
      rw [huser, List.append_nil, Bool.and_eq_true, beq_iff_eq, List.all_eq_true] at hp
      exact ⟨hp.1, fun d hd => beq_iff_eq.mp (hp.2 d hd)⟩
    · cases hp
  have hact : ∀ test, ∀ d ∈ mockKinds t, activeIn test d = (o.exportValue || test) := fun test d hd => by
    rw [hm1] at hd; simp [activeIn, expected_gated _ _ d hd]
  refine ⟨fun hex g hg => ?_, ?_, fun hex test => ?_⟩
  · rcases List.mem_cons.mp hg with rfl | hg
    · exact List.filter_eq_nil_iff.mpr fun d hd => by simp [hact false d hd, hex]
    · rw [hm2 g hg]; rfl
  · rw [← hm1]; exact List.filter_eq_self.mpr fun d hd => by simp [hact true d hd]
  · rw [← hm1]; exact List.filter_eq_self.mpr fun d hd => by simp [hact test d hd, hex]

end Entrait.C10Sem
