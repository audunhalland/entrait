import EntraitProofs.C01Sem
import EntraitProofs.C01
/-
  C01, semantically, *on the observed expansion*.

  `T_C01_sem` (C01Sem) evaluates an abstract call shape.  This file connects it to expansions: on every view on
  which `P_C01` holds — the model's output by `T_C01`, and the real macro's output on every case where the driver
  evaluated `P_C01` to 1 — every generated method of a fn / module input
    * has a body that *is* a call whose callee is spelled like the source function, and that spelling is not
      captured by any of the method's parameters (`calleeIsItem`: a parameter named like the function would make
      `f(..)` call the parameter), so the callee denotes the function item;
    * and, when the method's parameter names are pairwise distinct, evaluating the call's arguments with the
      parameters bound to the caller's values `v₁ … vₙ` yields `[receiver,] v₁, …, vₙ` in declared order
      (no receiver under `no_deps`): the original function receives exactly what the caller passed, once each.
-/
namespace Entrait.C01
open Entrait

/-- the callee of `f(..)` inside a method with parameters `ps` denotes the item `f`, not a parameter -/
def calleeIsItem (ps : List String) (f : String) : Bool := !(ps.map unraw).contains (unraw f)

theorem method_sem (noDeps : Bool) (src : FnItem) (m : GenMember) (hm : methodCallsFn noDeps false src m = true) :
    ∃ attrs g body c, m = .fn attrs g (some body) ∧ parseCall body = some c ∧
      g.ident = src.sig.ident ∧ c.callee = src.sig.ident ∧ c.selfScope = false ∧ c.await = src.sig.async_ ∧
      calleeIsItem (paramIdents g.inputs) c.callee = true ∧
      (nodup ((paramIdents g.inputs).map unraw) = true → (∀ q ∈ paramIdents g.inputs, q ≠ "self") →
        ∀ (recv : Nat) (vs : List Nat), (paramIdents g.inputs).length = vs.length →
          evalArgs recv ((paramIdents g.inputs).zip vs) c.args = some ((if noDeps then [] else [recv]) ++ vs)) := by
  obtain ⟨attrs, g, body, c, rfl, hpc, hid, hcallee, hss, haw, hargs, _, hnc, _⟩ := methodCallsFn_inv hm
  replace hcallee := hcallee.trans hid
  refine ⟨attrs, g, body, c, rfl, hpc, hid, hcallee, hss, haw, by rw [calleeIsItem, hcallee, ← hid, hnc]; rfl, ?_⟩
  intro hnd hself recv vs hl
  rw [hargs]
  cases noDeps
  · exact T_C01_sem recv g.ident _ vs true false hl hnd hself
  · exact T_C01_sem recv g.ident _ vs false false hl hnd hself

theorem T_C01_view (v : Variant) (attr : Toks) (item : Item) (view : View) (h : P_C01 v attr item view = true)
    (hmode : (∃ f, item = .fn f) ∨ (∃ m, item = .mod_ m)) (im : GenImpl) (him : mainImpl? view = some im) :
    ∀ sm ∈ item.sourceFns.zip im.members,
      ∃ attrs g body c, sm.2 = .fn attrs g (some body) ∧ parseCall body = some c ∧
        g.ident = sm.1.sig.ident ∧ c.callee = sm.1.sig.ident ∧ c.selfScope = false ∧ c.await = sm.1.sig.async_ ∧
        calleeIsItem (paramIdents g.inputs) c.callee = true ∧
        (nodup ((paramIdents g.inputs).map unraw) = true → (∀ q ∈ paramIdents g.inputs, q ≠ "self") →
          ∀ (recv : Nat) (vs : List Nat), (paramIdents g.inputs).length = vs.length →
            evalArgs recv ((paramIdents g.inputs).zip vs) c.args =
              some ((if optsNoDeps (effectiveOpts v attr item) then [] else [recv]) ++ vs)) :=
  fun sm hsm => method_sem _ sm.1 sm.2 (P_C01_methods h hmode him sm hsm)

theorem T_C01_sem_expand (v : Variant) (attr : Toks) (item : Item) (out : Out)
    (hid : item.identsOk = true) (h : expand v attr item = .ok out)
    (hmode : (∃ f, item = .fn f) ∨ (∃ m, item = .mod_ m)) (im : GenImpl) (him : mainImpl? out.view = some im) :
    ∀ sm ∈ item.sourceFns.zip im.members,
      ∃ attrs g body c, sm.2 = .fn attrs g (some body) ∧ parseCall body = some c ∧
        g.ident = sm.1.sig.ident ∧ c.callee = sm.1.sig.ident ∧ c.selfScope = false ∧ c.await = sm.1.sig.async_ ∧
        calleeIsItem (paramIdents g.inputs) c.callee = true ∧
        (nodup ((paramIdents g.inputs).map unraw) = true → (∀ q ∈ paramIdents g.inputs, q ≠ "self") →
          ∀ (recv : Nat) (vs : List Nat), (paramIdents g.inputs).length = vs.length →
            evalArgs recv ((paramIdents g.inputs).zip vs) c.args =
              some ((if optsNoDeps (effectiveOpts v attr item) then [] else [recv]) ++ vs)) :=
  T_C01_view v attr item out.view (T_C01 v attr item out hid h) hmode im him

example : calleeIsItem ["a", "b"] "f" = true ∧ calleeIsItem ["a", "f"] "f" = false ∧ calleeIsItem ["r#f"] "f" = false := by
  decide +kernel

end Entrait.C01
