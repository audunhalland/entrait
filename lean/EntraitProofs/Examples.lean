import EntraitModel.Props
/-
  Concrete, non-trivial inputs on which the model expands successfully: they witness that the
  hypotheses of the property theorems (`expand .. = .ok out`) are satisfiable in every mode.
-/
namespace Entrait.Examples
open Entrait

def tyPath (n : String) : Ty := .path false false 1 n [i n]

/-- `pub fn foo<D: A>(deps: &D, (a, b): (u8, u8), mut c: u8) -> u8 where D: B { a }` -/
def fnFoo : FnItem :=
  { vis := [i "pub"]
    sig := { ident := "foo"
             generics := { params := [.ty [] "D" [[i "A"]] false none],
                           preds := [.ty [] (tyPath "D") [[i "B"]] false] }
             inputs := [.typed [] (.ident false false "deps" none) (.ref_ none false (tyPath "D")),
                        .typed [] (.other [parens [i "a", p ',', i "b"]] ["a", "b"]) (.other [parens [i "u8", p ',', i "u8"]]),
                        .typed [] (.ident false true "c" none) (tyPath "u8")]
             output := some [i "u8"] }
    body := [braces [i "a"]] }

/-- `async fn bar(app: &App, x: u8)` — a concrete dependency -/
def fnBar : FnItem :=
  { sig := { ident := "bar", async_ := true
             inputs := [.typed [] (.ident false false "app" none) (.ref_ none false (tyPath "App")),
                        .typed [] (.ident false false "x" none) (tyPath "u8")] }
    body := [braces []] }

def sigA : Sig :=
  { ident := "a", inputs := [.typed [] (.ident false false "d" none) (.ref_ none false (.implTrait [[i "X"]] false))] }

/-- `mod m { pub fn a(d: &impl X) {} fn b() {} struct S; }`.  An oracle entry: `remaining` token trees of the body are
    left where the signature starts (after attributes and visibility), and the signature takes `consumed` of them
    (`fn a (..)`: three) -/
def modM : ModItemIn :=
  { ident := "m"
    body := [i "pub", i "fn", i "a", parens [i "d", p ':', p '&', i "impl", i "X"], braces [],
             i "fn", i "b", parens [], braces [], i "struct", i "S", p ';']
    oracle := [{ remaining := 11, consumed := 3, sig := sigA },
               { remaining := 7, consumed := 3, sig := { ident := "b" } }] }

/-- `mod m { #[cfg(any())] #[inline] pub fn a(d: &impl X) {} pub fn c(d: &impl X) {} }` -/
def modCfg : ModItemIn :=
  { ident := "m"
    body := [p '#', brackets [i "cfg", parens [i "any", parens []]], p '#', brackets [i "inline"],
             i "pub", i "fn", i "a", parens [i "d", p ':', p '&', i "impl", i "X"], braces [],
             i "pub", i "fn", i "c", parens [i "d", p ':', p '&', i "impl", i "X"], braces []]
    oracle := [{ remaining := 9, consumed := 3, sig := sigA },
               { remaining := 4, consumed := 3, sig := { sigA with ident := "c" } }] }

/-- `mod m { #[cfg_attr(all(), cfg(any()))] pub fn a(d: &impl X) {} pub fn c(d: &impl X) {} }` -/
def modCfgAttr : ModItemIn :=
  { ident := "m"
    body := [p '#', brackets [i "cfg_attr", parens [i "all", parens [], p ',', i "cfg", parens [i "any", parens []]]],
             i "pub", i "fn", i "a", parens [i "d", p ':', p '&', i "impl", i "X"], braces [],
             i "pub", i "fn", i "c", parens [i "d", p ':', p '&', i "impl", i "X"], braces []]
    oracle := [{ remaining := 9, consumed := 3, sig := sigA },
               { remaining := 4, consumed := 3, sig := { sigA with ident := "c" } }] }

/-- `pub trait Tr<T> { async fn m(&self, _: T) -> T; }` -/
def traitTr : TraitItem :=
  { vis := [i "pub"], ident := "Tr"
    generics := { params := [.ty [] "T" [] false none] }
    members := [.fn { sig := { ident := "m", async_ := true
                               inputs := [.recv [] (some none) false none,
                                          .typed [] (.other [i "_"] []) (tyPath "T")]
                               output := some [i "T"] } }] }

/-- `pub trait Cf { #[cfg(any())] fn gone(&self); fn here(&self); }` -/
def traitCfg : TraitItem :=
  { vis := [i "pub"], ident := "Cf"
    members := [.fn { attrs := [⟨[i "cfg", parens [i "any", parens []]]⟩],
                      sig := { ident := "gone", inputs := [.recv [] (some none) false none] } },
                .fn { sig := { ident := "here", inputs := [.recv [] (some none) false none] } }] }

/-- `impl TrImpl for X { fn m(d: &impl Y, a: u8) {} }` -/
def implX : ImplItemIn :=
  { traitPath := [i "TrImpl"], selfTy := [i "X"]
    body := [i "fn", i "m", parens [i "d", p ':', p '&', i "impl", i "Y", p ',', i "a", p ':', i "u8"], braces []]
    oracle := [{ remaining := 4, consumed := 3
                 sig := { ident := "m"
                          inputs := [.typed [] (.ident false false "d" none) (.ref_ none false (.implTrait [[i "Y"]] false)),
                                     .typed [] (.ident false false "a" none) (tyPath "u8")] } }] }

def isOk : Outcome → Bool
  | .ok _ => true
  | _ => false

theorem fnFoo_expands : isOk (expand .plain [i "pub", i "Foo", p ',', i "mock_api", p '=', i "M", p ',', i "unimock"] (.fn fnFoo)) = true := by decide +kernel
theorem fnBar_expands : isOk (expand .unimock [i "Bar"] (.fn fnBar)) = true := by decide +kernel
theorem modM_expands : isOk (expand .export_ [i "pub", parens [i "crate"], i "Foo"] (.mod_ modM)) = true := by decide +kernel
theorem modCfg_expands : isOk (expand .plain [i "Foo"] (.mod_ modCfg)) = true := by decide +kernel
theorem traitTr_expands : isOk (expand .plain [i "TrImpl", p ',', i "delegate_by", p '=', i "ref"] (.trait traitTr)) = true := by decide +kernel
theorem traitCfg_expands : isOk (expand .plain [i "CfImpl", p ',', i "delegate_by", p '=', i "ref"] (.trait traitCfg)) = true := by decide +kernel
theorem traitTr_leaf_expands : isOk (expand .unimock [] (.trait traitTr)) = true := by decide +kernel
theorem implX_expands : isOk (expand .plain [i "ref"] (.impl implX)) = true := by decide +kernel

end Entrait.Examples
