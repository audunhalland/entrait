import EntraitProofs.Anatomy
import EntraitProofs.OptParse
import EntraitProofs.C17Commas
/-
  C17 — options mean what the table says; macro variants are option shorthands.

  The expansion reads the options only through their *values*
  (`no_deps`, `export`, `?Send`, `unimock`, `mockall` as booleans with their defaults, `mock_api`):
  two attribute parses that agree on those values and on the trait name / visibility / delegation
  expand identically (`expand_fnmod_of_obs`, `expand_trait_of_obs`).  An argument list is the join of its
  comma-separated segments (`attrOf`, inverse to `splitCommas`), and the clauses (a)–(e) of the property are stated
  over lists of segments and come down to what the option parser makes of them.
-/
namespace Entrait.C17
open Entrait

/-- the values the expansion can observe -/
structure OptVals where
  noDeps : Bool
  export_ : Bool
  futureSend : Bool
  unimock : Bool
  mockall : Bool
  mockApi : Option String
  deriving DecidableEq, Repr

def vals (o : Opts) : OptVals :=
  { noDeps := o.noDepsValue, export_ := o.exportValue, futureSend := o.futureSendValue,
    unimock := o.unimockValue, mockall := o.mockallValue, mockApi := o.mockApi }

section congr
variable {o o' : Opts} (h : vals o = vals o')
include h

theorem v_noDeps : o.noDepsValue = o'.noDepsValue := congrArg OptVals.noDeps h
theorem v_export : o.exportValue = o'.exportValue := congrArg OptVals.export_ h
theorem v_send : o.futureSendValue = o'.futureSendValue := congrArg OptVals.futureSend h
theorem v_unimock : o.unimockValue = o'.unimockValue := congrArg OptVals.unimock h
theorem v_mockall : o.mockallValue = o'.mockallValue := congrArg OptVals.mockall h
theorem v_mockApi : o.mockApi = o'.mockApi := congrArg OptVals.mockApi h

theorem v_mockable : o.mockable = o'.mockable := by
  unfold Opts.mockable; rw [v_unimock h, v_mockall h, v_mockApi h]

theorem analyzeFns_congr (kind : ReceiverKind) (sigs : List Sig) (tg : TraitGenerics) :
    analyzeFns kind o sigs tg = analyzeFns kind o' sigs tg := by
  have : analyzed kind o = analyzed kind o' := funext fun s => by unfold analyzed; rw [v_noDeps h]
  rw [analyzeFns_eq, analyzeFns_eq, v_noDeps h, this]

theorem genTraitDef_congr (ind depMode subAttrs vis ident tg sup fns mode) :
    genTraitDef o ind depMode subAttrs vis ident tg sup fns mode =
    genTraitDef o' ind depMode subAttrs vis ident tg sup fns mode := by
  unfold genTraitDef unimockAttrOf mockallAttrOf makeTraitFnSig
  simp only [v_unimock h, v_mockApi h, v_export h, v_mockall h, v_send h]

theorem genImplBlock_congr (traitRef ind tg mode depMode subAttrs fns) :
    genImplBlock o traitRef ind tg mode depMode subAttrs fns =
    genImplBlock o' traitRef ind tg mode depMode subAttrs fns := by
  unfold genImplBlock; rw [v_mockable h]

theorem noMock_vals : vals (noMockOpts o) = vals (noMockOpts o') := by
  simp only [vals, noMockOpts, Opts.noDepsValue, Opts.exportValue, Opts.futureSendValue, Opts.unimockValue, Opts.mockallValue]
  have h1 := v_noDeps h; have h2 := v_export h; have h3 := v_send h
  simp only [Opts.noDepsValue, Opts.exportValue, Opts.futureSendValue] at h1 h2 h3
  rw [h1, h2, h3]

theorem fnsTail_congr (kind mode sigs as traitRef ind subAttrs k) :
    fnsTail kind mode o sigs as traitRef ind subAttrs k = fnsTail kind mode o' sigs as traitRef ind subAttrs k := by
  unfold fnsTail
  simp only [analyzeFns_congr h, genImplBlock_congr h]

theorem genDelegationTraitDefs_congr (implTrait delegation vis tg fns subs) :
    genDelegationTraitDefs ⟨implTrait, o, delegation⟩ vis tg fns subs =
    genDelegationTraitDefs ⟨implTrait, o', delegation⟩ vis tg fns subs := by
  unfold genDelegationTraitDefs
  simp only [genTraitDef_congr (noMock_vals h)]

end congr

def ImplAttrEquiv (v1 v2 : Variant) (a b : ImplAttr) : Prop :=
  a.dynRef = b.dynRef ∧ vals (v1.apply a.opts) = vals (v2.apply b.opts)

theorem expandImpl_congr (v1 v2 : Variant) (attr1 attr2 : Toks) (m : ImplItemIn) (a b : ImplAttr)
    (h1 : parseImplAttr attr1 = .ok a) (h2 : parseImplAttr attr2 = .ok b) (he : ImplAttrEquiv v1 v2 a b) :
    expandImpl v1 attr1 m = expandImpl v2 attr2 m := by
  obtain ⟨hd, ho⟩ := he
  rw [expandImpl_eq, expandImpl_eq, h1, h2]
  simp only [hd, fnsTail_congr ho]

/-- what the expansion observes of a parsed fn / mod attribute, and of a trait attribute -/
def fnObs (v : Variant) (a : FnAttr) : Toks × String × OptVals :=
  (a.traitVis, a.traitIdent, vals (v.apply a.opts))

def traitObs (v : Variant) (a : TraitAttr) : Option (Toks × String) × Option Delegate × OptVals :=
  (a.implTrait, a.delegation, vals (v.apply a.opts))

theorem expand_fnmod_of_obs (v1 v2 : Variant) (a1 a2 : Toks)
    (h : (parseFnAttr a1).map (fnObs v1) = (parseFnAttr a2).map (fnObs v2)) :
    (∀ f, expand v1 a1 (.fn f) = expand v2 a2 (.fn f)) ∧ (∀ m, expand v1 a1 (.mod_ m) = expand v2 a2 (.mod_ m)) := by
  obtain ⟨e, h1, h2⟩ | ⟨a, b, h1, h2, he⟩ := Except.map_eq_map h
  · exact ⟨fun f => by simp only [expand, expandFn_eq, h1, h2], fun m => by simp only [expand, expandMod_eq, h1, h2]⟩
  · obtain ⟨hv, hi, ho⟩ : a.traitVis = b.traitVis ∧ a.traitIdent = b.traitIdent ∧ _ := by
      simpa only [fnObs, Prod.mk.injEq] using he
    exact ⟨fun f => by simp only [expand, expandFn_eq, h1, h2, hv, hi, genTraitDef_congr ho, fnsTail_congr ho],
      fun m => by simp only [expand, expandMod_eq, h1, h2, hv, hi, genTraitDef_congr ho, fnsTail_congr ho]⟩

theorem expand_trait_of_obs (v1 v2 : Variant) (a1 a2 : Toks)
    (h : (parseTraitAttr a1).map (traitObs v1) = (parseTraitAttr a2).map (traitObs v2)) (t : TraitItem) :
    expand v1 a1 (.trait t) = expand v2 a2 (.trait t) := by
  show expandTrait v1 a1 t = expandTrait v2 a2 t
  unfold expandTrait
  obtain ⟨e, h1, h2⟩ | ⟨⟨ia, oa, da⟩, ⟨ib, ob, db⟩, h1, h2, he⟩ := Except.map_eq_map h
  · rw [h1, h2]
  · obtain ⟨rfl, rfl, ho⟩ : ia = ib ∧ da = db ∧ vals (v1.apply oa) = vals (v2.apply ob) := by
      simpa only [traitObs, Prod.mk.injEq] using he
    simp only [h1, h2, genTraitDef_congr ho, genDelegationTraitDefs_congr ho]
    -- what is left of the attribute, in the bounds on `T` and in the delegating methods, does not read `opts`
    rfl

theorem parseFnSegs_obs (v1 v2 : Variant) (a0 : Toks) (X1 X2 : List Toks)
    (h : (parseOptSegs Opts.setFn {} X1).map (fun o => vals (v1.apply o)) =
         (parseOptSegs Opts.setFn {} X2).map (fun o => vals (v2.apply o))) :
    (parseFnSegs (a0 :: X1)).map (fnObs v1) = (parseFnSegs (a0 :: X2)).map (fnObs v2) := by
  obtain hsyn | ⟨vis, name, hX⟩ := parseFnSegs_head a0
  · rw [hsyn, hsyn]; rfl
  · have := congrArg (Except.map fun w => (vis, name, w)) h
    rw [Except.map_map, Except.map_map] at this
    rw [(hX X1).1, (hX X2).1, Except.map_map, Except.map_map]
    exact this

/-- the shape of the six fn / mod statements of C17: the same first segment, option lists whose
    parses are observed alike -/
theorem fnmod_of_opts (v1 v2 : Variant) (a0 : Toks) (X1 X2 : List Toks)
    (ha0 : CommaFree a0) (h1c : ∀ s ∈ X1, CommaFree s) (h2c : ∀ s ∈ X2, CommaFree s)
    (h : (parseOptSegs Opts.setFn {} X1).map (fun o => vals (v1.apply o)) =
         (parseOptSegs Opts.setFn {} X2).map (fun o => vals (v2.apply o))) :
    (∀ f, expand v1 (attrOf (a0 :: X1)) (.fn f) = expand v2 (attrOf (a0 :: X2)) (.fn f)) ∧
    (∀ m, expand v1 (attrOf (a0 :: X1)) (.mod_ m) = expand v2 (attrOf (a0 :: X2)) (.mod_ m)) := by
  apply expand_fnmod_of_obs
  rw [parseFnAttr_attrOf (by simp) (commaFree_cons ha0 h1c), parseFnAttr_attrOf (by simp) (commaFree_cons ha0 h2c)]
  exact parseFnSegs_obs v1 v2 a0 X1 X2 h

/-! ### (a) an option written bare is identical to `option = true` -/

def boolOptNames : List String := ["no_deps", "debug", "export", "unimock", "mockall"]

/-- the boolean options are those of the keyword table that read `boolArg` -/
theorem boolOpt_mem {s : String} (hs : s ∈ boolOptNames) : ∃ mk, (s, boolArg mk) ∈ optTable := by
  simp only [boolOptNames, List.mem_cons, List.mem_nil_iff, or_false] at hs
  rcases hs with rfl | rfl | rfl | rfl | rfl
  · exact ⟨.noDeps, List.mem_of_getElem? (i := 0) rfl⟩
  · exact ⟨.debug, List.mem_of_getElem? (i := 1) rfl⟩
  · exact ⟨.export_, List.mem_of_getElem? (i := 3) rfl⟩
  · exact ⟨.unimock, List.mem_of_getElem? (i := 5) rfl⟩
  · exact ⟨.mockall, List.mem_of_getElem? (i := 6) rfl⟩

/-- **bare ≡ `= true`**, for every boolean option, at any position of the option list, for every
    variant and every fn / mod / trait item -/
theorem T_C17_bare (v : Variant) (s : String) (hs : s ∈ boolOptNames) (a0 : Toks) (A B : List Toks)
    (ha0 : CommaFree a0) (hA : ∀ s ∈ A, CommaFree s) (hB : ∀ s ∈ B, CommaFree s) :
    (∀ f, expand v (attrOf (a0 :: A ++ [i s] :: B)) (.fn f) = expand v (attrOf (a0 :: A ++ [i s, p '=', i "true"] :: B)) (.fn f)) ∧
    (∀ m, expand v (attrOf (a0 :: A ++ [i s] :: B)) (.mod_ m) = expand v (attrOf (a0 :: A ++ [i s, p '=', i "true"] :: B)) (.mod_ m)) ∧
    (∀ t, expand v (attrOf (A ++ [i s] :: B)) (.trait t) = expand v (attrOf (A ++ [i s, p '=', i "true"] :: B)) (.trait t)) := by
  obtain ⟨mk, hmem⟩ := boolOpt_mem hs
  -- both spellings are `mk true`, by the table
  have h1 : parseOpt [i s] = .ok (mk true, []) := parseOpt_of_mem hmem []
  have h2 : parseOpt [i s, p '=', i "true"] = .ok (mk true, []) := parseOpt_of_mem hmem _
  have hc1 : CommaFree [i s] := commaFree_of_all rfl
  have hc2 : CommaFree [i s, p '=', i "true"] := commaFree_of_all rfl
  have hcongr : ∀ {σ : Type} (set : σ → Opt → Option σ) (st : σ) (A : List Toks),
      parseOptSegs set st (A ++ [i s] :: B) = parseOptSegs set st (A ++ [i s, p '=', i "true"] :: B) :=
    fun set st A => parseOptSegs_congr set _ _ st (by simp [h1, h2])
  have hfn := fnmod_of_opts v v a0 _ _ ha0 (commaFree_append hA (commaFree_cons hc1 hB))
    (commaFree_append hA (commaFree_cons hc2 hB)) (by rw [hcongr])
  refine ⟨hfn.1, hfn.2, fun t => expand_trait_of_obs v v _ _ (congrArg _ ?_) t⟩
  rw [parseTraitAttr_attrOf (attrOf_ne_nil_of_mem (x := [i s]) (by simp) (by simp)) (commaFree_append hA (commaFree_cons hc1 hB)),
    parseTraitAttr_attrOf (attrOf_ne_nil_of_mem (x := [i s, p '=', i "true"]) (by simp) (by simp))
      (commaFree_append hA (commaFree_cons hc2 hB))]
  cases A with
  | nil => rw [List.nil_append, List.nil_append, parseTraitSegs_of_opt h1, parseTraitSegs_of_opt h2]; exact hcongr _ _ []
  | cons a A' =>
    rw [List.cons_append, List.cons_append]
    obtain hsyn | ⟨st, pre, _, _, hT⟩ := parseTraitSegs_head a
    · rw [hsyn, hsyn]
    · rw [hT _ (ne_nilSeg_of_mem (x := [i s]) (by simp) (by simp)),
        hT _ (ne_nilSeg_of_mem (x := [i s, p '=', i "true"]) (by simp) (by simp)), ← List.append_assoc, ← List.append_assoc]
      exact hcongr _ _ _

/-! ### options with different keys commute -/

def Opt.key : Opt → Nat
  | .noDeps _ => 0 | .debug _ => 1 | .delegateBy _ => 2 | .export_ _ => 3
  | .maybeSend => 4 | .mockApi _ => 5 | .unimock _ => 6 | .mockall _ => 7

/-- no segment of the list sets the option with key `k` -/
def NoKey (k : Nat) (segs : List Toks) : Prop :=
  ∀ seg ∈ segs, ∀ o rest, parseOpt seg = .ok (o, rest) → Opt.key o ≠ k

theorem noKey_append {k : Nat} {A B : List Toks} (h : NoKey k (A ++ B)) : NoKey k A ∧ NoKey k B :=
  ⟨fun s hs => h s (List.mem_append_left _ hs), fun s hs => h s (List.mem_append_right _ hs)⟩

/-- setting two options with different keys commutes, rejection included -/
def SetComm {σ : Type} (set : σ → Opt → Option σ) : Prop :=
  ∀ st o1 o2, Opt.key o1 ≠ Opt.key o2 → (set st o1).bind (set · o2) = (set st o2).bind (set · o1)

theorem setFn_comm : SetComm Opts.setFn := by
  intro st o1 o2 hk
  cases o1 <;> cases o2 <;> first | rfl | exact absurd rfl hk

theorem traitSet_comm : SetComm TraitAttr.set := by
  intro st o1 o2 hk
  cases o1 <;> cases o2 <;> first | rfl | exact absurd rfl hk

/-- An option `o` that `set` never rejects and that no other segment sets may be written anywhere
    in the list: the outcome is that of the list without it, with `o` set at the end. -/
theorem parseOptSegs_insert {σ : Type} {set : σ → Opt → Option σ} (hc : SetComm set) {seg : Toks} {o : Opt}
    (hp : parseOpt seg = .ok (o, [])) {f : σ → σ} (hf : ∀ s, set s o = some (f s)) (A B : List Toks) (st : σ)
    (hB : NoKey (Opt.key o) B) :
    parseOptSegs set st (A ++ seg :: B) = (parseOptSegs set st (A ++ B)).map f := by
  rw [parseOptSegs_append, parseOptSegs_append]
  cases parseOptSegs set st A with
  | error e => rfl
  | ok stA =>
    have hstep : segStep set stA seg = .ok (f stA) := (segStep_ok set).mpr ⟨o, hp, hf stA⟩
    rw [Except.bind, Except.bind, parseOptSegs_cons, hstep]
    refine parseOptSegs_map set f B stA fun sg hsg o2 rest h2 s => ?_
    have := hc s o o2 (hB sg hsg o2 rest h2).symm
    rw [hf, Option.bind_some] at this
    rw [this]
    cases set s o2 <;> simp [hf]

/-! ### a field no segment sets keeps its initial value -/

/-- the three fields the results below speak about (`no_deps`, `export`, `unimock`: keys 0, 3, 6) are written by
    their own option only -/
theorem setFn_frame {st st' : Opts} {o : Opt} (h : Opts.setFn st o = some st') :
    (Opt.key o ≠ 0 → st'.noDeps = st.noDeps) ∧ (Opt.key o ≠ 3 → st'.export_ = st.export_) ∧
    (Opt.key o ≠ 6 → st'.unimock = st.unimock) := by
  cases o <;> cases h <;> exact ⟨fun h => by first | rfl | exact absurd rfl h, fun h => by first | rfl | exact absurd rfl h,
    fun h => by first | rfl | exact absurd rfl h⟩

/-- on the options it shares with fn targets, `TraitAttr.set` writes `opts` as `setFn` does -/
theorem traitSet_opts {a a' : TraitAttr} {o : Opt} (h : TraitAttr.set a o = some a') :
    a'.opts = a.opts ∧ Opt.key o = 2 ∨ Opts.setFn a.opts o = some a'.opts := by
  cases o <;> cases h <;> first | exact .inr rfl | exact .inl ⟨rfl, rfl⟩

theorem untouched {σ α : Type} {set : σ → Opt → Option σ} (get : σ → α) {k : Nat}
    (hframe : ∀ s s' o, set s o = some s' → Opt.key o ≠ k → get s' = get s)
    {segs : List Toks} {st r : σ} (hn : NoKey k segs) (h : parseOptSegs set st segs = .ok r) : get r = get st :=
  parseOptSegs_inv set (fun s => get s = get st) segs st r
    (fun seg hseg o rest hp s s' hs hq => (hframe s s' o hs (hn seg hseg o rest hp)).trans hq) rfl h

/-- Inserting the segment `seg` (option `o`, always accepted: `hf`) anywhere into an option list that sets `o`'s key
    nowhere else commutes with parsing, seen through an observation: if `V` after the insertion agrees with `V'`
    before it on every state whose field `get` — the one `o` writes (`hframe`) — is still the initial one (`hV`). -/
theorem insert_obs {σ β : Type} {set : σ → Opt → Option σ} (hc : SetComm set) (V V' : σ → β) {seg : Toks} {o : Opt}
    (hp : parseOpt seg = .ok (o, [])) {f : σ → σ} (hf : ∀ s, set s o = some (f s)) {α : Type} (get : σ → α)
    (hframe : ∀ s s' o', set s o' = some s' → Opt.key o' ≠ Opt.key o → get s' = get s) (st : σ)
    (hV : ∀ r, get r = get st → V' r = V (f r)) (A B : List Toks) (hn : NoKey (Opt.key o) (A ++ B)) :
    (parseOptSegs set st (A ++ B)).map V' = (parseOptSegs set st (A ++ seg :: B)).map V := by
  rw [parseOptSegs_insert hc hp hf A B st (noKey_append hn).2, Except.map_map]
  exact Except.map_congr_ok fun r hr => hV r (untouched get hframe hn hr)

/-! ### (b) `no_deps = false` and `export = false` are identical to omitting them -/

def segNoDepsFalse : Toks := [i "no_deps", p '=', i "false"]
def segExportFalse : Toks := [i "export", p '=', i "false"]

theorem parse_noDepsFalse : parseOpt segNoDepsFalse = .ok (.noDeps false, []) :=
  parseOpt_of_mem (f := boolArg .noDeps) (List.mem_of_getElem? (i := 0) rfl) _
theorem parse_exportFalse : parseOpt segExportFalse = .ok (.export_ false, []) :=
  parseOpt_of_mem (f := boolArg .export_) (List.mem_of_getElem? (i := 3) rfl) _

/- The `vals_*` facts (two here, two under (c)) are computations over the two or four variants concerned, once the
   field in question is known to be `none`. -/

theorem vals_noDepsFalse (v : Variant) (r0 : Opts) (h : r0.noDeps = none) :
    vals (v.apply r0) = vals (v.apply { r0 with noDeps := some false }) := by
  obtain ⟨_, _, _, _, _, _, _⟩ := r0
  cases h
  cases v <;> rfl

theorem vals_exportFalse (v : Variant) (hv : v = .plain ∨ v = .unimock) (r0 : Opts) (h : r0.export_ = none) :
    vals (v.apply r0) = vals (v.apply { r0 with export_ := some false }) := by
  obtain ⟨_, _, _, _, _, _, _⟩ := r0
  cases h
  rcases hv with rfl | rfl <;> rfl

/-- **`no_deps = false` ≡ omitted**: for every variant, at any position, provided no other segment
    sets `no_deps` -/
theorem T_C17_noDeps_false (v : Variant) (a0 : Toks) (A B : List Toks)
    (ha0 : CommaFree a0) (hA : ∀ s ∈ A, CommaFree s) (hB : ∀ s ∈ B, CommaFree s) (hn : NoKey 0 (A ++ B)) :
    (∀ f, expand v (attrOf (a0 :: A ++ B)) (.fn f) = expand v (attrOf (a0 :: A ++ segNoDepsFalse :: B)) (.fn f)) ∧
    (∀ m, expand v (attrOf (a0 :: A ++ B)) (.mod_ m) = expand v (attrOf (a0 :: A ++ segNoDepsFalse :: B)) (.mod_ m)) :=
  fnmod_of_opts v v a0 _ _ ha0 (commaFree_append hA hB) (commaFree_append hA (commaFree_cons (commaFree_of_all rfl) hB))
    (insert_obs setFn_comm _ _ parse_noDepsFalse (fun _ => rfl) Opts.noDeps (fun _ _ _ h hk => (setFn_frame h).1 hk) {}
      (vals_noDepsFalse v) A B hn)

/-- **`export = false` ≡ omitted**, before variant defaults apply (`entrait` itself, with or without
    the `unimock` feature) -/
theorem T_C17_export_false (v : Variant) (hv : v = .plain ∨ v = .unimock) (a0 : Toks) (A B : List Toks)
    (ha0 : CommaFree a0) (hA : ∀ s ∈ A, CommaFree s) (hB : ∀ s ∈ B, CommaFree s) (hn : NoKey 3 (A ++ B)) :
    (∀ f, expand v (attrOf (a0 :: A ++ B)) (.fn f) = expand v (attrOf (a0 :: A ++ segExportFalse :: B)) (.fn f)) ∧
    (∀ m, expand v (attrOf (a0 :: A ++ B)) (.mod_ m) = expand v (attrOf (a0 :: A ++ segExportFalse :: B)) (.mod_ m)) :=
  fnmod_of_opts v v a0 _ _ ha0 (commaFree_append hA hB) (commaFree_append hA (commaFree_cons (commaFree_of_all rfl) hB))
    (insert_obs setFn_comm _ _ parse_exportFalse (fun _ => rfl) Opts.export_ (fun _ _ _ h hk => (setFn_frame h).2.1 hk) {}
      (vals_exportFalse v hv) A B hn)

/-- the exception is real: under `entrait_export`, `export = false` is *not* the same as omitting it -/
example : vals (Variant.export_.apply {}) ≠ vals (Variant.export_.apply { export_ := some false }) := by decide

/-! ### (c) macro variants are option shorthands -/

def segExport : Toks := [i "export"]
def segUnimock : Toks := [i "unimock"]
theorem parse_export : parseOpt segExport = .ok (.export_ true, []) :=
  parseOpt_of_mem (f := boolArg .export_) (List.mem_of_getElem? (i := 3) rfl) _
theorem parse_unimock : parseOpt segUnimock = .ok (.unimock true, []) :=
  parseOpt_of_mem (f := boolArg .unimock) (List.mem_of_getElem? (i := 5) rfl) _

/-- `entrait_export` is `entrait` + `export`; with the `unimock` feature likewise -/
def addExport : Variant → Variant
  | .plain => .export_
  | .unimock => .exportUnimock
  | v => v

/-- the `unimock` cargo feature turns `entrait` into the unimock variant -/
def addUnimock : Variant → Variant
  | .plain => .unimock
  | .export_ => .exportUnimock
  | v => v

theorem vals_addExport (v : Variant) (hv : v = .plain ∨ v = .unimock) (r0 : Opts) (h : r0.export_ = none) :
    vals ((addExport v).apply r0) = vals (v.apply { r0 with export_ := some true }) := by
  obtain ⟨_, _, _, _, _, _, _⟩ := r0
  cases h
  rcases hv with rfl | rfl <;> rfl

theorem vals_addUnimock (v : Variant) (hv : v = .plain ∨ v = .export_) (r0 : Opts) (h : r0.unimock = none) :
    vals ((addUnimock v).apply r0) = vals (v.apply { r0 with unimock := some true }) := by
  obtain ⟨_, _, _, _, _, _, _⟩ := r0
  cases h
  rcases hv with rfl | rfl <;> rfl

/-- **`entrait_export(args)` ≡ `entrait(args, export)`** unless `args` sets `export` (fn / mod) -/
theorem T_C17_variant_export (v : Variant) (hv : v = .plain ∨ v = .unimock) (a0 : Toks) (X : List Toks)
    (ha0 : CommaFree a0) (hX : ∀ s ∈ X, CommaFree s) (hn : NoKey 3 X) :
    (∀ f, expand (addExport v) (attrOf (a0 :: X)) (.fn f) = expand v (attrOf (a0 :: X ++ [segExport])) (.fn f)) ∧
    (∀ m, expand (addExport v) (attrOf (a0 :: X)) (.mod_ m) = expand v (attrOf (a0 :: X ++ [segExport])) (.mod_ m)) := by
  have := insert_obs setFn_comm (fun o => vals (v.apply o)) (fun o => vals ((addExport v).apply o)) parse_export (fun _ => rfl)
    Opts.export_ (fun _ _ _ h hk => (setFn_frame h).2.1 hk) {} (vals_addExport v hv) X [] (by rwa [List.append_nil])
  rw [List.append_nil] at this
  exact fnmod_of_opts _ v a0 _ _ ha0 hX (commaFree_append hX (commaFree_cons (commaFree_of_all rfl) (by simp))) this

/-- **with the `unimock` feature, `entrait(args)` ≡ `entrait(args, unimock)` without it** unless
    `args` sets `unimock`: fn / mod -/
theorem T_C17_variant_unimock (v : Variant) (hv : v = .plain ∨ v = .export_) (a0 : Toks) (X : List Toks)
    (ha0 : CommaFree a0) (hX : ∀ s ∈ X, CommaFree s) (hn : NoKey 6 X) :
    (∀ f, expand (addUnimock v) (attrOf (a0 :: X)) (.fn f) = expand v (attrOf (a0 :: X ++ [segUnimock])) (.fn f)) ∧
    (∀ m, expand (addUnimock v) (attrOf (a0 :: X)) (.mod_ m) = expand v (attrOf (a0 :: X ++ [segUnimock])) (.mod_ m)) := by
  have := insert_obs setFn_comm (fun o => vals (v.apply o)) (fun o => vals ((addUnimock v).apply o)) parse_unimock (fun _ => rfl)
    Opts.unimock (fun _ _ _ h hk => (setFn_frame h).2.2 hk) {} (vals_addUnimock v hv) X [] (by rwa [List.append_nil])
  rw [List.append_nil] at this
  exact fnmod_of_opts _ v a0 _ _ ha0 hX (commaFree_append hX (commaFree_cons (commaFree_of_all rfl) (by simp))) this

/-- appending `unimock` to the option segments of a trait attribute, as the expansion observes it -/
theorem trait_snoc_obs (v : Variant) (hv : v = .plain ∨ v = .export_) (st : TraitAttr) (X : List Toks)
    (hn : NoKey 6 X) (hst : st.opts.unimock = none) :
    (parseOptSegs TraitAttr.set st X).map (traitObs (addUnimock v)) =
      (parseOptSegs TraitAttr.set st (X ++ [segUnimock])).map (traitObs v) := by
  have := insert_obs traitSet_comm (traitObs v) (traitObs (addUnimock v)) parse_unimock
    (f := fun s => { s with opts := { s.opts with unimock := some true } }) (fun _ => rfl) (fun s => s.opts.unimock)
    (fun s s' o hs hk => by
      rcases traitSet_opts hs with ⟨h, _⟩ | h
      · rw [h]
      · exact (setFn_frame h).2.2 hk)
    st (fun r hr => by simp only [traitObs, vals_addUnimock v hv r.opts (hr.trans hst)]) X [] (by rwa [List.append_nil])
  rwa [List.append_nil] at this

/-- the same for trait targets.  `hr0`: where options follow the delegation-target trait without a comma, what is left of
    the first segment is itself an option segment, and must not set `unimock` either -/
theorem T_C17_variant_unimock_trait (v : Variant) (hv : v = .plain ∨ v = .export_) (S : List Toks)
    (hS : ∀ s ∈ S, CommaFree s) (hne : ∀ s ∈ S, s ≠ []) (hn : NoKey 6 S)
    (hr0 : ∀ s0 ∈ S.head?, ∀ vis name rest0, parseVis s0 = .ok (vis, .ident name :: rest0) → NoKey 6 [rest0])
    (t : TraitItem) :
    expand (addUnimock v) (attrOf S) (.trait t) = expand v (attrOf (S ++ [segUnimock])) (.trait t) := by
  apply expand_trait_of_obs
  cases S with
  | nil =>
    rw [List.nil_append, parseTraitAttr_attrOf (segs := [segUnimock]) (by simp [attrOf, joinSep, segUnimock])
      (commaFree_cons (commaFree_of_all rfl) (by simp)), parseTraitSegs_of_opt parse_unimock]
    exact trait_snoc_obs v hv {} [] (fun _ h => by cases h) rfl
  | cons s0 S' =>
    have h0 := hne s0 List.mem_cons_self
    rw [parseTraitAttr_attrOf (attrOf_ne_nil_of_mem h0 List.mem_cons_self) hS,
      parseTraitAttr_attrOf (attrOf_ne_nil_of_mem h0 (by simp))
        (commaFree_append hS (commaFree_cons (commaFree_of_all rfl) (by simp))), List.cons_append]
    obtain hsyn | ⟨st, pre, hst, hpre, hT⟩ := parseTraitSegs_head s0
    · rw [hsyn, hsyn]; rfl
    · have h1 : S' ≠ [[]] := fun h => hne [] (by simp [h]) rfl
      have h2 : S' ++ [segUnimock] ≠ [[]] := ne_nilSeg_of_mem (x := segUnimock) (by simp [segUnimock]) (by simp)
      rw [hT _ h1, hT _ h2, ← List.append_assoc]
      refine trait_snoc_obs v hv st (pre ++ S') (fun s hs => ?_) (by rw [hst])
      rcases List.mem_append.mp hs with hs | hs
      · rcases hpre s hs with rfl | ⟨vis, name, hpv⟩
        · exact hn s List.mem_cons_self
        · exact hr0 s0 (by simp) vis name s hpv s List.mem_cons_self
      · exact hn s (List.mem_cons_of_mem _ hs)

/-! ### (d) the expansion does not depend on option order -/

/-- the option a completely consumed segment denotes -/
def segOpt (seg : Toks) : Option Opt :=
  match parseOpt seg with
  | .ok (o, []) => some o
  | _ => none

theorem segOpt_eq_some {seg : Toks} {o : Opt} : segOpt seg = some o ↔ parseOpt seg = .ok (o, []) := by
  unfold segOpt
  split
  · rename_i o' h; rw [h]; simp
  · rename_i h; constructor
    · intro h'; cases h'
    · intro h'; exact absurd h' (h o)

def segKeys (segs : List Toks) : List Nat := (segs.filterMap segOpt).map Opt.key

theorem segKeys_cons_some {x : Toks} {o : Opt} {l : List Toks} (h : parseOpt x = .ok (o, [])) :
    segKeys (x :: l) = Opt.key o :: segKeys l :=
  congrArg (List.map Opt.key) (List.filterMap_cons_some (segOpt_eq_some.mpr h))

theorem parseOptSegs_perm {σ : Type} (set : σ → Opt → Option σ) (hc : SetComm set) {l1 l2 : List Toks}
    (hp : l1.Perm l2) :
    ∀ (st r : σ), (segKeys l1).Nodup → parseOptSegs set st l1 = .ok r → parseOptSegs set st l2 = .ok r := by
  induction hp with
  | nil => intro st r _ h; exact h
  | cons x _ ih =>
    intro st r hnd h
    rw [parseOptSegs_cons_ok] at h ⊢
    obtain ⟨o, st', ho, hs, hrest⟩ := h
    rw [segKeys_cons_some ho] at hnd
    exact ⟨o, st', ho, hs, ih st' r (List.nodup_cons.mp hnd).2 hrest⟩
  | swap x y l =>
    intro st r hnd h
    rw [parseOptSegs_cons_ok] at h
    obtain ⟨oy, s1, hoy, hs1, h⟩ := h
    rw [parseOptSegs_cons_ok] at h
    obtain ⟨ox, s2, hox, hs2, hrest⟩ := h
    rw [segKeys_cons_some hoy, segKeys_cons_some hox] at hnd
    have hk : Opt.key oy ≠ Opt.key ox := fun he => (List.nodup_cons.mp hnd).1 (by simp [he])
    have := hc st oy ox hk
    rw [hs1, Option.bind_some, hs2] at this
    obtain ⟨s1', h1', h2'⟩ := Option.bind_eq_some_iff.mp this.symm
    rw [parseOptSegs_cons_ok]
    refine ⟨ox, s1', hox, h1', ?_⟩
    rw [parseOptSegs_cons_ok]
    exact ⟨oy, s2, hoy, h2', hrest⟩
  | trans p1 _ ih1 ih2 =>
    intro st r hnd h
    have hnd2 := (List.Perm.nodup_iff ((p1.filterMap segOpt).map Opt.key)).mp hnd
    exact ih2 st r hnd2 (ih1 st r hnd h)

/-- **order independence**, fn / mod: any permutation of an accepted option list with pairwise
    different options expands identically -/
theorem T_C17_perm_fn (v : Variant) (a0 : Toks) (X1 X2 : List Toks) (hp : X1.Perm X2)
    (ha0 : CommaFree a0) (h1c : ∀ s ∈ X1, CommaFree s) (hnd : (segKeys X1).Nodup)
    (hok : ∃ r, parseOptSegs Opts.setFn {} X1 = .ok r) :
    (∀ f, expand v (attrOf (a0 :: X1)) (.fn f) = expand v (attrOf (a0 :: X2)) (.fn f)) ∧
    (∀ m, expand v (attrOf (a0 :: X1)) (.mod_ m) = expand v (attrOf (a0 :: X2)) (.mod_ m)) := by
  obtain ⟨r, hr⟩ := hok
  exact fnmod_of_opts v v a0 X1 X2 ha0 h1c (fun s hs => h1c s (hp.mem_iff.mpr hs))
    (by rw [hr, parseOptSegs_perm Opts.setFn setFn_comm hp {} r hnd hr])

/-- **order independence**, trait targets without a delegation-target trait: the whole argument
    list is an option list -/
theorem T_C17_perm_trait (v : Variant) (S1 S2 : List Toks) (hp : S1.Perm S2)
    (h1c : ∀ s ∈ S1, CommaFree s) (hne : ∀ s ∈ S1, s ≠ []) (hnd : (segKeys S1).Nodup)
    (hok : ∃ r, parseOptSegs TraitAttr.set {} S1 = .ok r) (t : TraitItem) :
    expand v (attrOf S1) (.trait t) = expand v (attrOf S2) (.trait t) := by
  obtain ⟨r, hr⟩ := hok
  have hr2 := parseOptSegs_perm TraitAttr.set traitSet_comm hp {} r hnd hr
  -- an accepted list is an option list from its first segment on
  have key : ∀ S : List Toks, (∀ s ∈ S, CommaFree s) → (∀ s ∈ S, s ≠ []) → parseOptSegs TraitAttr.set {} S = .ok r →
      parseTraitAttr (attrOf S) = .ok r := by
    intro S hc hn h
    cases S with
    | nil => exact h
    | cons a A =>
      obtain ⟨o, _, ho, _⟩ := (parseOptSegs_cons_ok _).mp h
      rw [parseTraitAttr_attrOf (attrOf_ne_nil_of_mem (hn a List.mem_cons_self) List.mem_cons_self) hc,
        parseTraitSegs_of_opt ho, h]
  apply expand_trait_of_obs
  rw [key S1 h1c hne hr, key S2 (fun s hs => h1c s (hp.mem_iff.mpr hs)) (fun s hs => hne s (hp.mem_iff.mpr hs)) hr2]

/-! ### (e) each option is accepted only on the targets documented for it -/

inductive Target | fn | mod_ | trait | impl
  deriving DecidableEq, Repr

/-- the option table of the crate documentation (`src/lib.rs`, "# Options"), transcribed -/
def documented : Opt → Target → Bool
  | .noDeps _, .fn => true
  | .export_ _, .fn => true
  | .export_ _, .mod_ => true
  | .mockApi _, t => t != .impl
  | .unimock _, t => t != .impl
  | .mockall _, t => t != .impl
  | .maybeSend, t => t != .impl
  | .delegateBy _, .trait => true
  | _, _ => false

def accepts (o : Opt) : Target → Bool
  | .fn => (Opts.setFn {} o).isSome
  | .mod_ => (Opts.setFn {} o).isSome
  | .trait => (TraitAttr.set {} o).isSome
  | .impl => (ImplAttr.set {} o).isSome

/-- acceptance does not depend on what was parsed before -/
theorem accepts_state_indep (o : Opt) :
    (∀ st, (Opts.setFn st o).isSome = (Opts.setFn {} o).isSome) ∧
    (∀ st, (TraitAttr.set st o).isSome = (TraitAttr.set {} o).isSome) ∧
    (∀ st, (ImplAttr.set st o).isSome = (ImplAttr.set {} o).isSome) := by
  cases o <;> exact ⟨fun _ => rfl, fun _ => rfl, fun _ => rfl⟩

/-- the model accepts exactly the documented (option, target) pairs — apart from the undocumented
    `debug`, and from `no_deps` on modules (`C17_no_deps_on_mod`, a recorded finding) -/
theorem T_C17_table (o : Opt) (t : Target) (hdebug : Opt.key o ≠ 1) (hfinding : ¬ (Opt.key o = 0 ∧ t = .mod_)) :
    accepts o t = documented o t := by
  cases o <;> cases t <;> first | rfl | exact absurd rfl hdebug | exact absurd ⟨rfl, rfl⟩ hfinding

/-- the deviation from the documented table: `no_deps` is accepted on a module -/
theorem C17_no_deps_on_mod (b : Bool) : accepts (.noDeps b) .mod_ = true ∧ documented (.noDeps b) .mod_ = false :=
  ⟨rfl, rfl⟩

/-- a rejected option is answered with "Unsupported option", wherever it stands in an otherwise
    accepted prefix -/
theorem rejected_is_diag {σ : Type} (set : σ → Opt → Option σ) (A B : List Toks) (seg : Toks) (o : Opt) (rest : Toks)
    (st stA : σ) (hA : parseOptSegs set st A = .ok stA) (hp : parseOpt seg = .ok (o, rest)) (hrej : set stA o = none) :
    parseOptSegs set st (A ++ seg :: B) = .error unsupported := by
  rw [parseOptSegs_append, hA, Except.bind, parseOptSegs_cons, segStep, hp]
  simp only [hrej]
  rfl

/-- anything that is not an option name is answered with its "Unkonwn entrait option" message -/
theorem unknown_is_diag (s : String) (hk : isKeyword s = false)
    (hs : s ∉ ["no_deps", "debug", "delegate_by", "export", "mock_api", "unimock", "mockall"]) (rest : Toks) :
    parseOpt (i s :: rest) = .error (unknownOpt s) :=
  parseOpt_of_not_mem hk hs rest

theorem parse_noDeps : parseOpt [i "no_deps"] = .ok (.noDeps true, []) :=
  parseOpt_of_mem (f := boolArg .noDeps) (List.mem_of_getElem? (i := 0) rfl) _
theorem parse_mockApiM : parseOpt [i "mock_api", p '=', i "M"] = .ok (.mockApi "M", []) := by
  rw [i, parseOpt_of_mem (f := mockApiArg) (List.mem_of_getElem? (i := 4) rfl)]
  simp [mockApiArg, p, i, isKeyword]

/-- the hypotheses of the order theorem hold of `no_deps, unimock, mock_api = M` -/
example : (segKeys [[i "no_deps"], [i "unimock"], [i "mock_api", p '=', i "M"]]).Nodup ∧
    ∃ r, parseOptSegs Opts.setFn {} [[i "no_deps"], [i "unimock"], [i "mock_api", p '=', i "M"]] = .ok r := by
  have h3 : parseOpt [i "unimock"] = _ := parse_unimock
  constructor
  · rw [segKeys_cons_some parse_noDeps, segKeys_cons_some h3, segKeys_cons_some parse_mockApiM]
    decide
  · exact ⟨_, (parseOptSegs_cons_ok _).mpr ⟨_, _, parse_noDeps, rfl,
      (parseOptSegs_cons_ok _).mpr ⟨_, _, h3, rfl, (parseOptSegs_cons_ok _).mpr ⟨_, _, parse_mockApiM, rfl, rfl⟩⟩⟩⟩

/-- `NoKey` holds of a list that does not mention the option -/
example : NoKey 3 [[i "no_deps"], [i "mock_api", p '=', i "M"]] := by
  intro seg hs o rest hp
  simp only [List.mem_cons, List.mem_nil_iff, or_false] at hs
  rcases hs with rfl | rfl
  · rw [parse_noDeps] at hp; cases hp; decide
  · rw [parse_mockApiM] at hp; cases hp; decide

end Entrait.C17
