import EntraitProofs.C06
/-
  C14 — static delegation is zero-cost: no boxing, no dynamic dispatch, no allocation.

  `T_C14`: unless dynamic dispatch was requested (`delegate_by = ref | Borrow`, `#[entrait(ref)]`
  on an impl block, or `async_trait` on the item), every generated impl block
  * has method bodies that are exactly one direct call, optionally `.await`ed —
    `f(self, a, ..)`, `Self::f(__impl, a, ..)`, `self.as_ref().m(a, ..)` or
    `<EntraitT::Target as I<EntraitT>>::m(self, a, ..)` — so the macro adds no `Box`, no `dyn`
    coercion, no allocation around the user's function;
  * is parameterised by `EntraitT` carrying only `::core::marker::Sync`, `::core::marker::Send`
    and `'static` (no trait object bound), and
  * is implemented for `EntraitT`, `::entrait::Impl<EntraitT>` or the user's own type.
  Together with T_C12 (an async method is declared `-> impl Future`, not boxed) this is the
  token-level content of the property; allocation *counts* of compiled code are rustc's and are
  not modelled (partial).
-/
namespace Entrait.C14
open Entrait

theorem macroHeadOk_of {ps : List GParam} {bv : Bool} (h : macroParam ps = some (implTParam bv)) :
    macroHeadOk ps = true := by
  unfold macroHeadOk
  rw [h]
  cases bv <;> decide +kernel

theorem bodies_ok (attr : Toks) (item : Item) (hi : ∀ t, item ≠ .trait t) (mode : InputMode) (ind : ImplIndirection)
    (fns : List TraitFn) :
    (fns.map fun tf => GenMember.fn tf.attrs tf.sig (some (delegatingBody mode ind tf))).all (staticBodyOk attr item) = true := by
  simp only [List.all_map, List.all_eq_true]
  intro tf _
  cases item with
  | trait t => exact absurd rfl (hi t)
  | _ => simp [staticBodyOk, C01.parseCall_delegating]

theorem bodies_fn (attr : Toks) (item : Item) (hi : ∀ t, item ≠ .trait t) (mode : InputMode) (hm : mode ≠ .implBlock)
    (fns : List TraitFn) :
    (fns.map fun tf => GenMember.fn tf.attrs tf.sig (some (delegatingBody mode .none tf))).all (staticBodyOk attr item) = true :=
  bodies_ok attr item hi mode .none fns

theorem bodies_impl (attr : Toks) (m : ImplItemIn) (ind : ImplIndirection) (hind : ind.isNone = false) (fns : List TraitFn) :
    (fns.map fun tf => GenMember.fn tf.attrs tf.sig (some (delegatingBody .implBlock ind tf))).all (staticBodyOk attr (.impl m)) = true :=
  bodies_ok attr (.impl m) (fun _ => Item.noConfusion) .implBlock ind fns

theorem T_C14 (v : Variant) (attr : Toks) (item : Item) (out : Out)
    (h : expand v attr item = .ok out) : P_C14 attr item out.view = true := by
  unfold P_C14
  split
  · rfl
  · rename_i hdyn
    by_cases hi : ∀ t, item ≠ .trait t
    · -- fn / mod / impl block: one delegating impl; its bodies are single calls, its header the macro's
      obtain ⟨kind, opts, ind, traitRef, tg, depMode, im, d, him, hind⟩ := expand_delegation h hi
      rw [him, List.all_cons, List.all_nil, Bool.and_true]
      unfold implStaticOk
      rw [Bool.and_eq_true]
      refine ⟨by rw [d.impl]; exact bodies_ok attr item hi _ _ _, ?_⟩
      rcases d.header with hc | ⟨⟨bv, hp⟩, hs⟩
      · simp [hc]
      · rw [macroHeadOk_of hp, hs]
        rcases hind with rfl | ⟨m, rfl, rfl | rfl⟩ <;> cases opts.mockable <;> simp [implSelfTy]
    · -- a trait: `delegate_by = ref | Borrow` not being requested, the forwarding shape is a static one
      rcases item with _ | _ | t | _ <;> try exact absurd (fun _ => Item.noConfusion) hi
      obtain ⟨a0, h1, _, _, him⟩ := expandTrait_view h
      have hstat : (expectedShape a0 t.containsAsync).isStatic = true := by
        have hd (b) : a0.delegation ≠ some (.byRef b) := fun hb => hdyn (by simp only [dynamicRequested, h1, hb, Bool.or_true])
        obtain ⟨it, _, d⟩ := a0
        rcases it with _ | _ <;> rcases d with _ | _ | b | _ <;> first | rfl | exact absurd rfl (hd b)
      rw [him, List.all_cons, List.all_nil, Bool.and_true]
      unfold implStaticOk
      rw [Bool.and_eq_true]
      refine ⟨?_, by simp [traitImplBlock, macroHeadOk_of (macroParam_generic _ _)]⟩
      simp only [traitImplBlock, List.all_map, List.all_eq_true]
      intro f _
      have he : expectedShape { a0 with opts := v.apply a0.opts } t.containsAsync = expectedShape a0 t.containsAsync := rfl
      simp only [Function.comp, C06.delegationMethod_eq, staticBodyOk, h1, ← C06.containsAsync_eq, he, hstat]
      cases (traitFnOf f).originallyAsync <;> simp

/-- `#[entrait(pub Tr)]` on `Examples.modM`: no dynamic dispatch requested, one impl, and it passes -/
example :
    (match expand .plain [i "pub", i "Tr"] (.mod_ Examples.modM) with
     | .ok out => (dynamicRequested [i "pub", i "Tr"] (.mod_ Examples.modM),
                   (implsOf out.view.items).map (implStaticOk [i "pub", i "Tr"] (.mod_ Examples.modM)))
     | _ => (true, [])) = (false, [true]) := by decide +kernel

end Entrait.C14
