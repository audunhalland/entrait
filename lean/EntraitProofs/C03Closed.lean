import EntraitProofs.C03
/-
  C03, lifetimes: no where-predicate that talks about a lifetime parameter of a function is lifted to
  the generated trait (where that lifetime is not in scope), so the trait's where clause is closed; and
  the impl adds nothing but the predicate with the dependency bounds.
-/
namespace Entrait.C03Closed
open Entrait

/-- a liftable predicate names none of its function's lifetimes: closed over them, it is closed over any list -/
theorem closed_of_liftable (g : Generics) (q : WherePred) (L : List String)
    (hc : closedOver g.lifetimeNames q = true) (hl : liftable g q = true) : closedOver L q = true := by
  simp only [closedOver, liftable, List.all_eq_true, Bool.not_eq_true', List.any_eq_false, Bool.or_eq_true] at hc hl ⊢
  intro n hn
  rcases hc n hn with (h | h) | h
  · exact .inl (.inl h)
  · exact absurd h (hl n hn)
  · exact .inr h

theorem closed_of_analysis {kind : ReceiverKind} {opts : Opts} {sigs : List Sig} {fns : List TraitFn} {tg : TraitGenerics}
    (han : analyzeFns kind opts sigs {} = .ok (fns, tg))
    (hlt : ∀ s ∈ sigs, s.generics.preds.all (closedOver s.generics.lifetimeNames) = true) (L : List String) :
    tg.preds.all (closedOver L) = true := by
  obtain ⟨_, rfl, _⟩ := analyzeFns_ok han
  simp only [TraitGenerics.add, liftedAll, List.nil_append, List.all_eq_true, List.mem_flatMap]
  rintro q ⟨s, hs, hq⟩
  obtain ⟨hq, hl⟩ := mem_lifted_preds hq
  exact closed_of_liftable s.generics q L (List.all_eq_true.mp (hlt s hs) q hq) hl

theorem implWherePreds_all (depMode : DepMode) (fns : List TraitFn) (tg : TraitGenerics) :
    (implWherePreds depMode .none fns tg).all (fun q => isDepPred q || tg.preds.contains q) = true := by
  rw [List.all_eq_true]
  intro q hq
  rcases List.mem_append.mp hq with hq | hq
  · rcases depMode with _ | _ <;> simp only [List.mem_nil_iff] at hq
    split at hq <;> simp only [List.mem_nil_iff, List.mem_singleton] at hq
    subst hq
    rfl
  · simpa using .inr hq

theorem T_C03_closed (v : Variant) (attr : Toks) (item : Item) (out : Out)
    (hlt : item.lifetimesOk = true) (h : expand v attr item = .ok out) : P_C03_closed item out.view = true := by
  by_cases hm : item.inputMode = .singleFn ∨ item.inputMode = .module
  · obtain ⟨a, tg, depMode, im, _, d, htr, him⟩ := expand_fnmod_ok h hm
    have hl : ∀ s ∈ item.sourceFns.map (·.sig), s.generics.preds.all (closedOver s.generics.lifetimeNames) = true :=
      List.forall_mem_map.mpr (List.all_eq_true.mp hlt)
    have c1 := closed_of_analysis d.analysis hl
      (genTraitDef (v.apply a.opts) .plain depMode item.attrs a.traitVis a.traitIdent tg {}
        (item.traitFns .selfRef (v.apply a.opts)) item.inputMode).lifetimeNames
    obtain ⟨f, rfl⟩ | ⟨m, rfl⟩ := Item.fnmod_cases hm <;>
    · simp only [P_C03_closed, mainTrait?, mainImpl?, htr, him, List.head?_cons, List.getLast?_singleton, Bool.and_eq_true]
      exact ⟨c1, by rw [d.impl]; exact implWherePreds_all ..⟩
  · obtain ⟨t, rfl⟩ | ⟨m, rfl⟩ := Item.not_fnmod_cases hm <;> rfl

theorem T_C03_full (v : Variant) (attr : Toks) (item : Item) (out : Out)
    (hid : item.identsOk = true) (hgen : item.genericsOk = true) (hlt : item.lifetimesOk = true)
    (h : expand v attr item = .ok out) : P_C03_full v attr item out.view = true := by
  unfold P_C03_full
  rw [C03.T_C03 v attr item out hid hgen h, T_C03_closed v attr item out hlt h]
  rfl

/-- `fn f<'a, T>(d: &impl Bar, x: &'a T) -> &'a T where T: 'a`: the predicate stays off the trait -/
example : liftable { params := [.lt [] "a" [] false, .ty [] "T" [] false none],
                     preds := [.ty [] (.path false false 1 "T" [i "T"]) [lifetimeToks "a"] false] }
    (.ty [] (.path false false 1 "T" [i "T"]) [lifetimeToks "a"] false) = false := by
  simp [liftable, lifetimesIn, WherePred.print, Ty.print, printBounds, joinSep, lifetimeToks, Generics.lifetimeNames,
    GParam.lifetimeName?, p, i]

/-- the recorded defect `C03.ltbound`, in the model as in the macro: for
    `fn f<'a, D, T: 'a>(d: &D, x: &'a T)` the type parameter is lifted to the trait with its inline
    bound `T: 'a`, and the trait does not declare `'a` -/
theorem C03_ltbound_witness :
    let s : Sig :=
      { ident := "f",
        generics := { params := [.lt [] "a" [] false, .ty [] "D" [] false none, .ty [] "T" [lifetimeToks "a"] false none] },
        inputs := [.typed [] (.ident false false "d" none) (.ref_ none false (.path false false 1 "D" [i "D"])),
                   .typed [] (.ident false false "x" none) (.ref_ (some "a") false (.path false false 1 "T" [i "T"]))] }
    (match analyzeFns .selfRef {} [s] {} with
     | .ok (_, tg) => tg.params.map GParam.boundToks
     | .error _ => []) = [[lifetimeToks "a"]] := by decide +kernel

end Entrait.C03Closed
