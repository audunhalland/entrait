import EntraitProofs.C01
/-
  C06 — entraited traits: `Impl<T>` forwards every method to `T` (Self / ref / Borrow).

  `T_C06`: for an entraited trait without delegation-target trait the generated impl is
      impl<'a.., EntraitT: Sync + 'static, <the trait's other generics, defaults stripped>> Trait<args>
        for ::entrait::Impl<EntraitT>
        where EntraitT: <provider> + <only Sync / 'static>, <the trait's own predicates>
  with provider `Trait<args>` (default / `delegate_by = Self`), `::core::convert::AsRef<dyn Trait<args>>`
  (`ref`) or `::core::borrow::Borrow<dyn Trait<args>>` (`Borrow`); and every method of the trait has
  a delegating method with the same signature up to parameter names whose body is exactly
      self.as_ref()[.as_ref() | .borrow()].m(p₁, …, pₙ)[.await]
  with the method's own parameter identifiers in order and `.await` iff the method is async.
  (No `Send` on `T`, also for async traits delegated by reference: the former finding C06.send, fixed in 0be7903.)
-/
namespace Entrait.C06
open Entrait

theorem delegationCall_spec (a : TraitAttr) (ca : Bool) (f : String) (args : List String) (aw : Bool) :
    delegationCall a ca f args ++ (if aw then [p '.', i "await"] else []) =
      specDelegBody (expectedShape a ca) f args aw := by
  unfold delegationCall expectedShape specDelegBody
  rcases a.implTrait with _ | ⟨iv, implIdent⟩ <;> rcases a.delegation with _ | _ | (_ | _) | dn <;> rfl

theorem containsAsync_eq (t : TraitItem) : t.containsAsync = traitContainsAsync t := by
  unfold TraitItem.containsAsync TraitItem.fns traitContainsAsync
  rw [List.any_filterMap]
  exact congrArg (List.any t.members) (funext fun m => by cases m <;> rfl)

theorem sigSame_of_shape (sig : Sig) (ins : List FnArg) (h : ins.map FnArg.erasePat = sig.inputs.map FnArg.erasePat) :
    sigSameModuloNames sig { sig with inputs := ins } = true := by
  simp only [sigSameModuloNames, beq_self_eq_true, Bool.true_and]
  refine zipAll_of_map_eq FnArg.erasePat _ (fun x y hxy => ?_) _ _ h
  cases x <;> cases y <;> simp_all [FnArg.erasePat]

theorem delegationMethod_eq (a : TraitAttr) (ca : Bool) (tf : TraitFn) :
    delegationMethod a ca tf =
      .fn tf.attrs { tf.sig with inputs := fixParams tf.sig.ident tf.sig.inputs }
        (some (specDelegBody (expectedShape a ca) tf.sig.ident
          (paramIdents (fixParams tf.sig.ident tf.sig.inputs)) tf.originallyAsync)) := by
  unfold delegationMethod
  simp only
  rw [delegationCall_spec]

theorem forwardsAll_ok (a0 : TraitAttr) (o : Opts) (t : TraitItem) (fns : List TraitFn)
    (hf : fns = t.fns.map traitFnOf) :
    forwardsAll a0 t (traitImplBlock { a0 with opts := o } t fns) = true := by
  subst hf
  simp only [forwardsAll, traitImplBlock, List.map_map, zipAll_map_self, List.all_eq_true, Function.comp]
  intro f _
  rw [delegationMethod_eq, Bool.and_eq_true]
  constructor
  · exact sigSame_of_shape f.sig _ (fixParams_shape f.sig.ident f.sig.inputs)
  · rw [containsAsync_eq t]
    show (specDelegBody _ f.sig.ident _ f.sig.async_ == specDelegBody _ f.sig.ident _ f.sig.async_) = true
    simp [expectedShape]

theorem implHeader_ok (a0 : TraitAttr) (o : Opts) (t : TraitItem) (fns : List TraitFn) :
    implHeaderOk t (traitImplBlock { a0 with opts := o } t fns) = true := by
  simp [implHeaderOk, traitImplBlock, traitTg, traitWithArgs, genericArgs, ImplIndirection.isNone, implParams]

theorem T_C06 (v : Variant) (attr : Toks) (item : Item) (out : Out)
    (h : expand v attr item = .ok out) : P_C06 attr item out.view = true := by
  rcases item with f | m | t | m <;> try rfl
  obtain ⟨a0, h1, _, _, him⟩ := expandTrait_view h
  simp only [P_C06, h1, mainImpl?, him, List.getLast?_singleton]
  have hfw := forwardsAll_ok a0 (v.apply a0.opts) t _ rfl
  have hhd := implHeader_ok a0 (v.apply a0.opts) t (t.fns.map traitFnOf)
  obtain ⟨extras, he, hx⟩ := traitImplTBounds_shape { a0 with opts := v.apply a0.opts } (traitContainsAsync t) t.ident (traitTg t)
  rcases hi : a0.implTrait with _ | it
  · simp only [Option.isSome_none, Bool.false_eq_true, if_false, Bool.and_eq_true]
    rw [hi] at hfw hhd he
    refine ⟨⟨hhd, hfw⟩, ?_⟩
    simp only [traitImplBlock, List.head?_cons, he, Bool.and_eq_true, beq_iff_eq, List.all_eq_true]
    refine ⟨⟨trivial, ?_⟩, fun e h => List.contains_iff_mem.mpr (hx e h)⟩
    rcases a0.delegation with _ | _ | b | _ <;> rfl
  · rfl

/-- `Examples.traitTr` as a leaf trait (no arguments), under the unimock variant -/
example :
    (match expand .unimock [] (.trait Examples.traitTr) with
     | .ok out => P_C06 [] (.trait Examples.traitTr) out.view
     | _ => false) = true := by decide +kernel

end Entrait.C06
