import EntraitProofs.C01Sem
import EntraitProofs.Params
/-
  C07, the impl-block side, *on the observed expansion*.

  On every view on which `P_C07` holds for an `#[entrait] impl TraitImpl for Type { fn .. }` block — the model's
  output by `T_C07`, the real macro's output wherever the driver evaluated `P_C07` to 1 — every method of the
  generated `impl TraitImpl<EntraitT> for Type`
    * has a body that is a call *through `Self::`* of the function of the same name: the callee is the inherent
      function of the user's type (a path, which no parameter can capture),
    * passes `__impl` (its own first parameter, the `&Impl<EntraitT>` it was given) as the dependency, followed by
      its remaining parameters in declared order: with pairwise distinct names, evaluating the argument list with
      the parameters bound to the caller's values yields exactly those values, in order.
-/
namespace Entrait.C07Sem
open Entrait

theorem implMethod_sem (src : FnItem) (m : GenMember) (hm : methodCallsFn false true src m = true) :
    ∃ attrs g body c, m = .fn attrs g (some body) ∧ parseCall body = some c ∧
      g.ident = src.sig.ident ∧ c.callee = src.sig.ident ∧ c.selfScope = true ∧ c.await = src.sig.async_ ∧
      c.args = "__impl" :: (paramIdents g.inputs).drop 1 ∧
      (∀ rest, paramIdents g.inputs = "__impl" :: rest → nodup ((paramIdents g.inputs).map unraw) = true →
        (∀ q ∈ paramIdents g.inputs, q ≠ "self") →
        ∀ (recv : Nat) (vs : List Nat), (paramIdents g.inputs).length = vs.length →
          C01.evalArgs recv ((paramIdents g.inputs).zip vs) c.args = some vs) := by
  obtain ⟨attrs, g, body, c, rfl, hpc, hid, hcallee, hss, haw, hargs, _⟩ := methodCallsFn_inv hm
  replace hcallee := hcallee.trans hid
  refine ⟨attrs, g, body, c, rfl, hpc, hid, hcallee, hss, haw, hargs, ?_⟩
  intro rest hps hnd hself recv vs hl
  have h := C01.evalArgs_params recv _ vs hl hnd hself
  rwa [hargs, hps] at *

theorem T_C07_impl_view (attr : Toks) (m : ImplItemIn) (view : View) (h : P_C07 attr (.impl m) view = true)
    (im : GenImpl) (him : mainImpl? view = some im) :
    im.selfTy = m.selfTy ∧
    ∀ sm ∈ (Item.impl m).sourceFns.zip im.members,
      ∃ attrs g body c, sm.2 = .fn attrs g (some body) ∧ parseCall body = some c ∧
        g.ident = sm.1.sig.ident ∧ c.callee = sm.1.sig.ident ∧ c.selfScope = true ∧ c.await = sm.1.sig.async_ ∧
        c.args = "__impl" :: (paramIdents g.inputs).drop 1 ∧
        (∀ rest, paramIdents g.inputs = "__impl" :: rest → nodup ((paramIdents g.inputs).map unraw) = true →
          (∀ q ∈ paramIdents g.inputs, q ≠ "self") →
          ∀ (recv : Nat) (vs : List Nat), (paramIdents g.inputs).length = vs.length →
            C01.evalArgs recv ((paramIdents g.inputs).zip vs) c.args = some vs) := by
  unfold P_C07 at h
  cases hp : parseImplAttr attr with
  | error e => simp [hp] at h
  | ok a =>
    simp only [hp, him, P_C07_impl, Bool.and_eq_true, beq_iff_eq] at h
    obtain ⟨⟨⟨⟨hz, hself⟩, _⟩, _⟩, _⟩ := h
    refine ⟨hself, ?_⟩
    intro sm hsm
    exact implMethod_sem sm.1 sm.2 (zipAll_forall hz sm hsm)

end Entrait.C07Sem
