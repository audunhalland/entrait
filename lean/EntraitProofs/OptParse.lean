import EntraitModel.Locus
/-
  Lemmas of `EntraitModel/Opts.lean`: `parseOpt` as a lookup in the table of option keywords, and
  `parseOptSegs` as the iteration of one segment's effect on the parser state; with them, what the places
  `EntraitModel/Locus.lean` blames for the parsers' errors (`optSegsLocus`, `fnSegsLocus`, `traitSegsLocus`) are.
-/
namespace Entrait

/-- a boolean option after its keyword: `= true`, `= false` or nothing -/
def boolArg (mk : Bool → Opt) (r : Toks) : Except PErr (Opt × Toks) :=
  (parseEqBool r).map fun (b, r) => (mk b, r)

def delegateArg (r : Toks) : Except PErr (Opt × Toks) :=
  (parseEqDelegate r).map fun (d, r) => (.delegateBy d, r)

def mockApiArg : Toks → Except PErr (Opt × Toks)
  | .punct '=' :: .ident m :: r => if isKeyword m then .error .syn else .ok (.mockApi m, r)
  | _ => .error .syn

/-- the option keywords, each with what `parseOpt` reads after it -/
def optTable : List (String × (Toks → Except PErr (Opt × Toks))) :=
  [("no_deps", boolArg .noDeps), ("debug", boolArg .debug), ("delegate_by", delegateArg),
   ("export", boolArg .export_), ("mock_api", mockApiArg), ("unimock", boolArg .unimock),
   ("mockall", boolArg .mockall)]

/-- At an identifier `parseOpt` is a lookup in `optTable`.  (Proofs about `parseOpt` go through
    this: `split` on its chain of `else if`s costs time exponential in the length of the chain.) -/
theorem parseOpt_ident (s : String) (r : Toks) :
    parseOpt (.ident s :: r) =
      if isKeyword s then .error .syn
      else match optTable.lookup s with
        | some f => f r
        | none => .error (unknownOpt s) := by
  simp only [parseOpt, optTable, List.lookup]
  cases s == "no_deps"; case true => rfl
  cases s == "debug"; case true => rfl
  cases s == "delegate_by"; case true => rfl
  cases s == "export"; case true => rfl
  cases s == "mock_api"; case true => rfl
  cases s == "unimock"; case true => rfl
  cases s == "mockall" <;> rfl

theorem optTable_not_keyword : ∀ e ∈ optTable, isKeyword e.1 = false := by decide +kernel

theorem parseOpt_of_mem {s : String} {f : Toks → Except PErr (Opt × Toks)} (h : (s, f) ∈ optTable) (r : Toks) :
    parseOpt (.ident s :: r) = f r := by
  have hk : isKeyword s = false := optTable_not_keyword _ h
  rw [parseOpt_ident, hk]
  simp only [optTable, List.mem_cons, Prod.mk.injEq, List.mem_nil_iff, or_false] at h
  rcases h with ⟨rfl, rfl⟩ | ⟨rfl, rfl⟩ | ⟨rfl, rfl⟩ | ⟨rfl, rfl⟩ | ⟨rfl, rfl⟩ | ⟨rfl, rfl⟩ | ⟨rfl, rfl⟩ <;> rfl

theorem parseOpt_of_not_mem {s : String} (hk : isKeyword s = false) (hs : s ∉ optTable.map (·.1)) (r : Toks) :
    parseOpt (.ident s :: r) = .error (unknownOpt s) := by
  have : optTable.lookup s = none :=
    List.lookup_eq_none_iff.mpr fun e he => bne_iff_ne.mpr fun h => hs (h ▸ List.mem_map_of_mem he)
  rw [parseOpt_ident, hk, this]
  rfl

/-! ### the identifier an outcome of `parseOpt` designates -/

theorem parseEqBool_err {r : Toks} {e : PErr} (h : parseEqBool r = .error e) : e = .syn := by
  unfold parseEqBool at h
  split at h <;> cases h
  rfl

theorem parseEqDelegate_err {r : Toks} {e : PErr} (h : parseEqDelegate r = .error e) : e = .syn := by
  unfold parseEqDelegate at h
  split at h
  iterate 2 cases h
  · split at h
    · cases h; rfl
    · split at h <;> cases h
  · cases h; rfl
  · cases h

/-- What an outcome of `parseOpt` designates: nothing (syn's own error), the unknown word, or the
    accepted option's span; both are identifiers of the segment. -/
inductive OptOutcome (seg : Toks) : Except PErr (Opt × Toks) → Prop
  | syn : OptOutcome seg (.error .syn)
  | unknown (x : String) : (TT.flattenList seg)[unknownOptOff seg]? = some (.ident x) →
      OptOutcome seg (.error (unknownOpt x))
  | ok (o : Opt) (rest : Toks) (x : String) : (TT.flattenList seg)[o.spanOff]? = some (.ident x) →
      OptOutcome seg (.ok (o, rest))

theorem optTable_outcome {s : String} {f : Toks → Except PErr (Opt × Toks)} (h : (s, f) ∈ optTable) (r : Toks) :
    OptOutcome (.ident s :: r) (f r) := by
  -- an option whose span is its keyword
  have hmap : ∀ {α : Type} (x : Except PErr (α × Toks)) (mk : α → Opt), (∀ e, x = .error e → e = .syn) →
      (∀ a, (mk a).spanOff = 0) → OptOutcome (.ident s :: r) (x.map fun (a, r) => (mk a, r)) := by
    intro α x mk hx hmk
    cases x with
    | error e => rw [hx e rfl]; exact .syn
    | ok q => exact .ok _ _ s (by rw [hmk]; rfl)
  simp only [optTable, List.mem_cons, Prod.mk.injEq, List.mem_nil_iff, or_false] at h
  rcases h with ⟨-, rfl⟩ | ⟨-, rfl⟩ | ⟨-, rfl⟩ | ⟨-, rfl⟩ | ⟨-, rfl⟩ | ⟨-, rfl⟩ | ⟨-, rfl⟩
  case inr.inr.inr.inr.inl =>
    unfold mockApiArg
    split
    · rename_i m r'
      cases isKeyword m
      · exact .ok _ _ m rfl
      · exact .syn
    · exact .syn
  case inr.inr.inl => exact hmap _ _ (fun _ => parseEqDelegate_err) fun _ => rfl
  all_goals exact hmap _ _ (fun _ => parseEqBool_err) fun _ => rfl

theorem parseOpt_outcome (seg : Toks) : OptOutcome seg (parseOpt seg) := by
  rw [parseOpt.eq_def]
  split
  · rename_i s r
    cases isKeyword s
    · cases s == "Send"
      · exact .unknown s rfl
      · exact .ok _ _ s rfl
    · exact .syn
  · exact .syn
  · rename_i s r
    show OptOutcome _ (parseOpt (.ident s :: r))
    rw [parseOpt_ident]
    cases isKeyword s
    · cases hl : optTable.lookup s with
      | none => exact .unknown s rfl
      | some f =>
        obtain ⟨l₁, l₂, h, -⟩ := List.lookup_eq_some_iff.mp hl
        exact optTable_outcome (h ▸ List.mem_append_right l₁ List.mem_cons_self) r
    · exact .syn
  · exact .syn

section segs
variable {σ : Type} (set : σ → Opt → Option σ)

def segStep (st : σ) (seg : Toks) : Except PErr σ :=
  match parseOpt seg with
  | .error e => .error e
  | .ok (opt, rest) =>
    match set st opt with
    | none => .error unsupported
    | some st' => if rest.isEmpty then .ok st' else .error .syn

theorem parseOptSegs_cons (st : σ) (seg : Toks) (segs : List Toks) :
    parseOptSegs set st (seg :: segs) = (segStep set st seg).bind fun st' => parseOptSegs set st' segs := by
  rw [parseOptSegs, segStep]
  cases parseOpt seg with
  | error e => rfl
  | ok q =>
    dsimp only
    cases set st q.1 with
    | none => rfl
    | some st' => dsimp only; split <;> rfl

theorem segStep_ok {st st' : σ} {seg : Toks} :
    segStep set st seg = .ok st' ↔ ∃ o, parseOpt seg = .ok (o, []) ∧ set st o = some st' := by
  unfold segStep
  cases parseOpt seg with
  | error e => simp
  | ok q =>
    obtain ⟨o, rest⟩ := q
    cases hs : set st o with
    | none => simp [hs]
    | some s => cases rest <;> simp [hs]

theorem parseOptSegs_cons_ok {st r : σ} {seg : Toks} {segs : List Toks} :
    parseOptSegs set st (seg :: segs) = .ok r ↔
      ∃ o st', parseOpt seg = .ok (o, []) ∧ set st o = some st' ∧ parseOptSegs set st' segs = .ok r := by
  rw [parseOptSegs_cons]
  constructor
  · intro h
    cases hs : segStep set st seg with
    | error e => rw [hs] at h; cases h
    | ok st' =>
      obtain ⟨o, hp, hset⟩ := (segStep_ok set).mp hs
      exact ⟨o, st', hp, hset, by rwa [hs] at h⟩
  · rintro ⟨o, st', hp, hset, h⟩
    rw [(segStep_ok set).mpr ⟨o, hp, hset⟩]
    exact h

/-- the leaf of a segment that a diagnostic is blamed on: the unknown word, or the span of the option `set` refuses -/
def segErrOff (seg : Toks) : Nat :=
  match parseOpt seg with
  | .ok (o, _) => o.spanOff
  | .error _ => unknownOptOff seg

theorem optSegsLocus_cons (st : σ) (seg : Toks) (segs : List Toks) (base : Nat) :
    optSegsLocus set st (seg :: segs) base =
      match segStep set st seg with
      | .ok st' => optSegsLocus set st' segs (base + flatLen seg + 1)
      | .error .syn => none
      | .error (.diag _) => some (.attr (base + segErrOff seg) 1) := by
  rw [optSegsLocus, segStep, segErrOff]
  cases parseOpt seg with
  | error e => cases e <;> rfl
  | ok q =>
    dsimp only
    cases set st q.1 with
    | none => rfl
    | some st' => dsimp only; split <;> rfl

theorem segStep_diag {st : σ} {seg : Toks} {m : String} (h : segStep set st seg = .error (.diag m)) :
    ∃ x, (TT.flattenList seg)[segErrOff seg]? = some (.ident x) ∧ (.diag m = unknownOpt x ∨ .diag m = unsupported) := by
  unfold segStep at h
  unfold segErrOff
  have ho := parseOpt_outcome seg
  generalize parseOpt seg = r at ho h
  cases ho with
  | syn => cases h
  | unknown x hleaf => exact ⟨x, hleaf, .inl (Except.error.inj h).symm⟩
  | ok o rest x hleaf =>
    dsimp only at h ⊢
    cases hs : set st o with
    | none => rw [hs] at h; exact ⟨x, hleaf, .inr (Except.error.inj h).symm⟩
    | some st' => rw [hs] at h; dsimp only at h; split at h <;> cases h

theorem parseOptSegs_append : ∀ (a b : List Toks) (st : σ),
    parseOptSegs set st (a ++ b) = (parseOptSegs set st a).bind fun st' => parseOptSegs set st' b
  | [], _, _ => rfl
  | seg :: a, b, st => by
      rw [List.cons_append, parseOptSegs_cons, parseOptSegs_cons]
      cases segStep set st seg with
      | error e => rfl
      | ok st' => exact parseOptSegs_append a b st'

theorem parseOptSegs_congr : ∀ (l1 l2 : List Toks) (st : σ),
    l1.map parseOpt = l2.map parseOpt → parseOptSegs set st l1 = parseOptSegs set st l2
  | [], [], _, _ => rfl
  | [], _ :: _, _, h => by cases h
  | _ :: _, [], _, h => by cases h
  | x :: l1, y :: l2, st, h => by
      rw [List.map_cons, List.map_cons, List.cons.injEq] at h
      rw [parseOptSegs_cons, parseOptSegs_cons, segStep, segStep, h.1]
      congr 1
      funext st'
      exact parseOptSegs_congr l1 l2 st' h.2

theorem parseOptSegs_inv (Q : σ → Prop) : ∀ (segs : List Toks) (st r : σ),
    (∀ seg ∈ segs, ∀ o rest, parseOpt seg = .ok (o, rest) → ∀ s s', set s o = some s' → Q s → Q s') →
    Q st → parseOptSegs set st segs = .ok r → Q r
  | [], st, r, _, hq, h => by cases h; exact hq
  | seg :: segs, st, r, hstep, hq, h => by
      obtain ⟨o, st', hp, hset, h'⟩ := (parseOptSegs_cons_ok set).mp h
      exact parseOptSegs_inv Q segs st' r (fun sg hsg => hstep sg (List.mem_cons_of_mem _ hsg))
        (hstep seg List.mem_cons_self o [] hp st st' hset hq) h'

theorem parseOptSegs_map (f : σ → σ) : ∀ (segs : List Toks) (st : σ),
    (∀ seg ∈ segs, ∀ o rest, parseOpt seg = .ok (o, rest) → ∀ s, set (f s) o = (set s o).map f) →
    parseOptSegs set (f st) segs = (parseOptSegs set st segs).map f
  | [], _, _ => rfl
  | seg :: segs, st, hstep => by
      have ih := fun st' => parseOptSegs_map f segs st' fun sg hsg => hstep sg (List.mem_cons_of_mem _ hsg)
      rw [parseOptSegs_cons, parseOptSegs_cons, segStep, segStep]
      cases hp : parseOpt seg with
      | error e => rfl
      | ok q =>
        dsimp only
        rw [hstep seg List.mem_cons_self q.1 q.2 hp st]
        cases set st q.1 with
        | none => rfl
        | some st' =>
          dsimp only [Option.map]
          split
          · exact ih st'
          · rfl
end segs

theorem parseVis_print {ts vis rest : Toks} (h : parseVis ts = .ok (vis, rest)) : vis ++ rest = ts := by
  unfold parseVis at h
  repeat' split at h
  all_goals cases h <;> rfl

theorem parseVis_err {ts : Toks} {e : PErr} (h : parseVis ts = .error e) : e = .syn := by
  unfold parseVis at h
  repeat' split at h
  all_goals cases h <;> rfl

/-- What the first segment of a fn / mod attribute decides, for `parseFnSegs` and for the place `fnSegsLocus`
    blames: syn rejects it, or it names the trait and the other segments are options. -/
theorem parseFnSegs_head (seg0 : Toks) :
    (∀ segs, parseFnSegs (seg0 :: segs) = .error .syn) ∨
    ∃ vis name, ∀ segs,
      parseFnSegs (seg0 :: segs) =
        (parseOptSegs Opts.setFn {} segs).map (fun o => { traitVis := vis, traitIdent := name, opts := o }) ∧
      fnSegsLocus (seg0 :: segs) = optSegsLocus Opts.setFn {} segs (flatLen seg0 + 1) := by
  unfold parseFnSegs fnSegsLocus
  dsimp only
  cases hv : parseVis seg0 with
  | error e => cases parseVis_err hv; exact .inl fun _ => rfl
  | ok q =>
    obtain ⟨vis, rest⟩ := q
    match rest with
    | [] | .punct _ :: _ | .lit _ :: _ | .group _ _ :: _ | .ident _ :: _ :: _ => exact .inl fun _ => rfl
    | [.ident name] =>
      dsimp only
      cases isKeyword name
      · exact .inr ⟨vis, name, fun segs => ⟨by cases parseOptSegs Opts.setFn {} segs <;> rfl, rfl⟩⟩
      · exact .inl fun _ => rfl

/-- the option segments that follow a delegation-target trait whose segment has `rest0` left over
    (`[[]]` is what `splitCommas` leaves after a trailing comma) -/
def traitTail (rest0 : Toks) (segs : List Toks) : List Toks :=
  if !rest0.isEmpty then rest0 :: segs else if segs == [[]] then [] else segs

theorem parseTraitSegs_of_opt {seg0 : Toks} {q : Opt × Toks} (h : parseOpt seg0 = .ok q) (segs : List Toks) :
    parseTraitSegs (seg0 :: segs) = parseOptSegs TraitAttr.set {} (seg0 :: segs) := by
  simp only [parseTraitSegs, h]

/-- What the first segment of a trait attribute decides, for `parseTraitSegs` and for the place
    `traitSegsLocus` blames: it is an option and so are all; or syn rejects it; or it names the
    delegation-target trait and options follow. -/
theorem parseTraitSegs_cases (seg0 : Toks) :
    (∃ q, parseOpt seg0 = .ok q ∧
      ∀ segs, traitSegsLocus (seg0 :: segs) = optSegsLocus TraitAttr.set {} (seg0 :: segs) 0) ∨
    (∀ segs, parseTraitSegs (seg0 :: segs) = .error .syn) ∨
    ∃ vis name rest0, parseVis seg0 = .ok (vis, .ident name :: rest0) ∧ ∀ segs,
      parseTraitSegs (seg0 :: segs) =
        parseOptSegs TraitAttr.set { implTrait := some (vis, name) } (traitTail rest0 segs) ∧
      traitSegsLocus (seg0 :: segs) =
        optSegsLocus TraitAttr.set { implTrait := some (vis, name) } (traitTail rest0 segs)
          (if rest0.isEmpty then flatLen seg0 + 1 else flatLen seg0 - flatLen rest0) := by
  unfold parseTraitSegs traitSegsLocus
  dsimp only
  cases hp : parseOpt seg0 with
  | ok q => exact .inl ⟨q, rfl, fun _ => rfl⟩
  | error e0 =>
    right
    cases hv : parseVis seg0 with
    | error e => cases parseVis_err hv; exact .inl fun _ => rfl
    | ok q =>
      obtain ⟨vis, rest⟩ := q
      match rest with
      | [] | .punct _ :: _ | .lit _ :: _ | .group _ _ :: _ => exact .inl fun _ => rfl
      | .ident name :: rest0 =>
        dsimp only
        cases isKeyword name
        · refine .inr ⟨vis, name, rest0, rfl, fun segs => ⟨rfl, ?_⟩⟩
          unfold traitTail
          cases rest0.isEmpty
          · rfl
          · cases segs == [[]] <;> rfl
        · exact .inl fun _ => rfl

/-- `parseTraitSegs` as a function of what follows the first segment `seg0`: syn rejects whatever follows, or the
    segments `pre ++ T` are parsed as options from a state with no option set, where `pre` holds `seg0` itself
    (an option) or what `seg0` has after the delegation-target trait (nothing, if a comma follows the trait) -/
theorem parseTraitSegs_head (seg0 : Toks) :
    (∀ T, parseTraitSegs (seg0 :: T) = .error .syn) ∨
    ∃ st pre, st.opts = {} ∧
      (∀ x ∈ pre, x = seg0 ∨ ∃ vis name, parseVis seg0 = .ok (vis, .ident name :: x)) ∧
      ∀ T, T ≠ [[]] → parseTraitSegs (seg0 :: T) = parseOptSegs TraitAttr.set st (pre ++ T) := by
  obtain ⟨q, hp, _⟩ | hsyn | ⟨vis, name, rest0, hv, h⟩ := parseTraitSegs_cases seg0
  · exact .inr ⟨{}, [seg0], rfl, fun x hx => .inl (List.mem_singleton.mp hx), fun T _ => parseTraitSegs_of_opt hp T⟩
  · exact .inl hsyn
  · refine .inr ⟨{ implTrait := some (vis, name) }, if rest0.isEmpty then [] else [rest0], rfl, fun x hx => ?_, fun T hT => ?_⟩
    · have hx : x = rest0 := by
        cases hr : rest0.isEmpty <;> rw [hr] at hx
        · exact List.mem_singleton.mp hx
        · cases hx
      exact .inr ⟨vis, name, hx ▸ hv⟩
    · rw [(h T).1, traitTail]
      cases rest0.isEmpty
      · rfl
      · simp [hT]

theorem implAttr_noDeps {ts : Toks} {a : ImplAttr} (h : parseImplAttr ts = .ok a) : a.opts.noDeps = none := by
  unfold parseImplAttr parseImplOpts at h
  dsimp only at h
  split at h
  · cases h; rfl
  · refine parseOptSegs_inv ImplAttr.set (fun st => st.opts.noDeps = none) _ _ _ (fun _ _ o _ _ s s' hs hq => ?_) rfl h
    cases o <;> cases hs
    exact hq

theorem apply_noDepsValue (v : Variant) (o : Opts) : (v.apply o).noDepsValue = o.noDepsValue := by
  unfold Variant.apply Opts.noDepsValue
  split <;> split <;> rfl

theorem impl_noDepsValue {v : Variant} {ts : Toks} {a : ImplAttr} (h : parseImplAttr ts = .ok a) :
    (v.apply a.opts).noDepsValue = false := by
  rw [apply_noDepsValue]; simp [Opts.noDepsValue, implAttr_noDeps h]

end Entrait
