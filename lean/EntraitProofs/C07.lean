import EntraitProofs.C06
import EntraitProofs.Header
import EntraitProofs.ImplMode
import EntraitProofs.OptParse
/-
  C07 — dependency inversion: `Impl<T>` reaches the selected implementation block.

  Trait side (`#[entrait(TraitImpl, delegate_by = Sel | ref | Borrow)] trait Trait`): the
  delegation-target trait is `TraitImpl<EntraitT, …>: 'static` with the trait's predicates and the
  trait's methods, their receiver replaced by (static) / followed by (dynamic)
  `__impl: &::entrait::Impl<EntraitT>`; for static selection the selector trait is
  `pub trait Sel<T> { type Target: TraitImpl<T>; }`; every `Impl<T>` method body is exactly
      <EntraitT::Target as TraitImpl<EntraitT>>::m(self, p₁, …, pₙ)                        (static)
      <EntraitT as ::core::convert::AsRef<dyn TraitImpl<EntraitT> [+ Sync]>>::as_ref(&*self).m(self, p₁, …, pₙ)   (dynamic)
  i.e. the *same* `&Impl<T>` is handed on as the block's dependency, the caller's arguments follow
  in order, and the target is named by `T` alone.
  Impl-block side (`#[entrait] impl TraitImpl for X`): `impl<EntraitT: Sync [+ Send] + 'static, …>
  Path<EntraitT, …> for X where ::entrait::Impl<EntraitT>: <declared dependency bounds>` whose
  method bodies are `Self::m(__impl, p₁, …, pₙ)[.await]` — `X`'s own function and no other.
-/
namespace Entrait.C07
open Entrait

theorem staticImplFn_members (o : Opts) (subs : List Attr) (fs : List TraitFnItem) :
    zipAll staticTargetMemberOk fs
      (((fs.map traitFnOf).map staticImplFn).map fun tf => GenMember.fn tf.attrs (makeTraitFnSig tf.sig subs o) none) = true := by
  rw [List.map_map, List.map_map, zipAll_map_self, List.all_eq_true]
  intro f _
  simp only [Function.comp, staticTargetMemberOk, makeTraitFnSig_inputs, makeTraitFnSig_ident]
  unfold staticImplFn traitFnOf
  cases hi : f.sig.inputs with
  | nil => simp [hi]
  | cons x xs =>
    cases x with
    | typed a pt t => simp [hi, FnArg.isRecv]
    | recv a r m c => cases r <;> simp [plainPat]

theorem dynamicImplFn_members (o : Opts) (subs : List Attr) (fs : List TraitFnItem) :
    zipAll dynTargetMemberOk fs
      (((fs.map traitFnOf).map dynamicImplFn).map fun tf => GenMember.fn tf.attrs (makeTraitFnSig tf.sig subs o) none) = true := by
  rw [List.map_map, List.map_map, zipAll_map_self, List.all_eq_true]
  intro f _
  simp only [Function.comp, dynTargetMemberOk, makeTraitFnSig_inputs, makeTraitFnSig_ident]
  unfold dynamicImplFn traitFnOf
  cases hi : f.sig.inputs with
  | nil => simp [hi]
  | cons x xs =>
    cases x with
    | typed a pt t => simp [hi, FnArg.isRecv]
    | recv a r m c => cases xs <;> simp

theorem delegTraitHeaderOk_target (a : TraitAttr) (t : TraitItem) (ind : TraitIndirection) (conv : TraitFn → TraitFn)
    (it : String) : delegTraitHeaderOk t it (targetTrait a t ind conv it) = true := by
  simp [delegTraitHeaderOk, targetTrait, genTraitDef, traitTg, staticSup]

theorem T_C07_trait (v : Variant) (attr : Toks) (t : TraitItem) (out : Out)
    (h : expand v attr (.trait t) = .ok out) : P_C07 attr (.trait t) out.view = true := by
  obtain ⟨a0, h1, _, htr, him⟩ := expandTrait_view h
  have hfw := C06.forwardsAll_ok a0 (v.apply a0.opts) t _ rfl
  have hhd := C06.implHeader_ok a0 (v.apply a0.opts) t (t.fns.map traitFnOf)
  have hca := C06.containsAsync_eq t
  simp only [P_C07, h1, mainImpl?, htr, him, List.getLast?_singleton, P_C07_trait, delegationTraits]
  rcases hi : a0.implTrait with _ | ⟨ivis, implIdent⟩
  · rfl
  · simp only [hi] at hfw hhd
    rcases hd : a0.delegation with _ | _ | b | dn <;> simp only [hd] at hfw hhd ⊢ <;> try rfl
    · simp only [Bool.and_eq_true]
      refine ⟨⟨⟨⟨?_, ?_⟩, hhd⟩, hfw⟩, ?_⟩
      · exact delegTraitHeaderOk_target ..
      · simpa [targetTrait, genTraitDef] using dynamicImplFn_members (noMockOpts (v.apply a0.opts)) (traitImplSubAttrs t) t.fns
      · simp only [traitImplBlock, List.head?_cons, traitImplTBounds, dynWherePredOk, hca]
        cases traitContainsAsync t <;> simp [fixedExtras]
    · simp only [Bool.and_eq_true]
      refine ⟨⟨⟨⟨⟨?_, ?_⟩, ?_⟩, hhd⟩, hfw⟩, ?_⟩
      · exact delegTraitHeaderOk_target ..
      · simpa [targetTrait, genTraitDef] using staticImplFn_members (noMockOpts (v.apply a0.opts)) (traitImplSubAttrs t) t.fns
      · simp [selectorTrait]
      · simp [traitImplBlock, traitImplTBounds]

theorem methodCallsFn_impl_ok (dyn : Bool) (ind : ImplIndirection) (hind : ind.isNone = false) (src : FnItem)
    (tf : TraitFn) (hs : ImplModeSpec dyn src.sig tf) (hid : identOk src.sig.ident = true)
    (hne : unraw src.sig.ident ≠ "__impl") (as : List Attr := []) :
    methodCallsFn false true src (.fn as tf.sig (some (delegatingBody .implBlock ind tf))) = true := by
  obtain ⟨lt, rest, _, hr, hn⟩ := hs.impl_first hne
  have hpi : paramIdents tf.sig.inputs = "__impl" :: (paramIdents tf.sig.inputs).drop 1 := by
    rw [← paramIdents_typedArgs, hr]; rfl
  have hcall := C01.parseCall_delegating .implBlock ind tf
  rw [hind, if_neg Bool.false_ne_true, List.nil_append] at hcall
  refine (methodCallsFn_fn hcall).mpr ⟨hs.ident, rfl, rfl, hs.origAsync, hpi, ?_⟩
  rw [hs.ident]
  exact (hn hid).method (sc := true)

theorem implBlockHeader_ok (o : Opts) (dyn : Bool) (hn : o.noDepsValue = false) (subAttrs : List Attr) (traitRef selfTy : Toks)
    (sigs : List Sig) (fns : List TraitFn) (tg : TraitGenerics) (depMode : DepMode) (im : GenImpl)
    (han : analyzeFns (if dyn then .dynamicImpl else .staticImpl) o sigs {} = .ok (fns, tg))
    (hdm : detectDepMode .implBlock fns = .ok depMode)
    (him : genImplBlock o traitRef (if dyn then .dynamic selfTy else .static_ selfTy) tg .implBlock depMode subAttrs fns = .ok im) :
    (im.selfTy == selfTy &&
     (traitRef ++ [p '<', i entraitT]).isPrefixOf im.traitRef &&
     implTParamOk (dyn && sigs.any Sig.depByValue) im.params &&
     wherePredsOk implPathTy (sigs.flatMap Sig.declaredDepBounds) (sigs.flatMap (·.generics.preds)) im.preds) = true := by
  cases genImplBlock_ok him
  rw [Bool.and_eq_true, Bool.and_eq_true, Bool.and_eq_true, beq_iff_eq, and_assoc, and_assoc]
  exact header_implBlock hn han hdm rfl rfl rfl rfl

theorem T_C07_impl (v : Variant) (attr : Toks) (m : ImplItemIn) (out : Out)
    (hid : (Item.impl m).identsOk = true) (h : expand v attr (.impl m) = .ok out) :
    P_C07 attr (.impl m) out.view = true := by
  obtain ⟨a, tg, depMode, im, h1, d, _, him⟩ := expandImpl_view h
  have hnd : (v.apply a.opts).noDepsValue = false := impl_noDepsValue h1
  obtain ⟨hdm, hp, hs, hw⟩ := d.header_eq
  obtain ⟨hself, hpre, hparam, hwhere⟩ := header_implBlock hnd d.analysis hdm hp (by rw [d.impl]) hs hw
  simp only [List.any_map, List.flatMap_map] at hparam hwhere
  simp only [P_C07, h1, mainImpl?, him, List.getLast?_singleton, P_C07_impl, Bool.and_eq_true, beq_iff_eq]
  refine ⟨⟨⟨⟨?_, hself⟩, hpre⟩, hparam⟩, hwhere⟩
  rw [d.members_eq, zipAll_map_self, List.all_eq_true]
  intro f hf
  have hidf := Item.identOk_of_mem hid hf
  exact methodCallsFn_impl_ok a.dynRef _ (by cases a.dynRef <;> rfl) f _ (implModeSpec hnd (d.analyzedFn hf)) hidf.1
    (hidf.2 rfl) _

theorem T_C07 (v : Variant) (attr : Toks) (item : Item) (out : Out)
    (hid : item.identsOk = true) (h : expand v attr item = .ok out) :
    P_C07 attr item out.view = true := by
  cases item with
  | fn f => rfl
  | mod_ m => rfl
  | trait t => exact T_C07_trait v attr t out h
  | impl m => exact T_C07_impl v attr m out hid h

/-- `#[entrait]` on `Examples.implX`: the method's body is a `Self::` call with `__impl` first -/
example :
    (match expand .plain [] (.impl Examples.implX) with
     | .ok out => (implsOf out.view.items).map (fun im => im.members.map fun g =>
          match g with | .fn _ _ (some b) => (parseCall b).map (fun c => (c.selfScope, c.args.head?)) | _ => none)
     | _ => []) = [[some (true, some "__impl")]] := by decide +kernel

end Entrait.C07
