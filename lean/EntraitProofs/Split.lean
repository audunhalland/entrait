import EntraitModel.Props
import EntraitProofs.OptParse
/-
  Lemmas about the module / impl body splitter (`splitBody`): the items it produces, printed
  one after the other, are the body it was given — provided the signature oracle is *stable*
  (the parsed signature prints to the very tokens it consumed; checked per case by the driver).
-/
namespace Entrait

/-- the oracle entries are stable for every suffix of `body` they talk about -/
def OracleOk (o : SigOracle) (body : Toks) : Prop :=
  ∀ e ∈ o, e.consumed ≤ e.remaining ∧ e.remaining ≤ body.length ∧
    e.sig.print = (body.drop (body.length - e.remaining)).take e.consumed

theorem oracleStable_iff {o : SigOracle} {body : Toks} : oracleStable o body = true ↔ OracleOk o body := by
  unfold oracleStable OracleOk
  simp [List.all_eq_true, Bool.and_eq_true, decide_eq_true_eq, and_assoc]

theorem SigOracle.at_mem {o : SigOracle} {n k : Nat} {sig : Sig} (h : o.at n = some (k, sig)) :
    ∃ e ∈ o, e.remaining = n ∧ e.consumed = k ∧ e.sig = sig := by
  unfold SigOracle.at at h
  split at h
  next e hf => cases h; exact ⟨e, List.mem_of_find?_eq_some hf, by simpa using List.find?_some hf, rfl, rfl⟩
  · cases h

/-- All the proofs use of a stable oracle (the two bounds of `OracleOk` are never needed): at a suffix `ts` of the
    body the signature is the first `k` trees of `ts`. -/
theorem OracleOk.at {o : SigOracle} {body ts : Toks} {k : Nat} {sig : Sig} (hok : OracleOk o body)
    (hsuf : ts <:+ body) (h : o.at ts.length = some (k, sig)) : sig.print = ts.take k := by
  obtain ⟨e, hmem, hr, rfl, rfl⟩ := SigOracle.at_mem h
  have hp := (hok e hmem).2.2
  rwa [hr, ← List.suffix_iff_eq_drop.mp hsuf] at hp

/-! ### the parsers the splitter is made of: what they take plus what they leave is the input;
    their only errors are syn's and `readPastTheEnd` -/

theorem parseOuterAttrs_spec (ts : Toks) :
    match parseOuterAttrs ts with
    | .ok (as, rest) => printAttrs as ++ rest = ts
    | .error e => e = .syn := by
  fun_induction parseOuterAttrs ts with
  | case1 inner _ as' r h' ih => rw [h'] at ih; rw [← ih]; rfl
  | case2 _ _ e h' ih => rw [h'] at ih; exact ih
  | case3 => rfl
  | case4 => rfl

theorem scanBraceOrSemi_print {ts taken rest : Toks}
    (h : scanBraceOrSemi ts = some (taken, rest)) : taken ++ rest = ts ∧ taken ≠ [] := by
  fun_induction scanBraceOrSemi ts generalizing taken rest with
  | case4 t _ _ _ tk r h' ih => cases h; exact ⟨congrArg (t :: ·) (ih h').1, List.cons_ne_nil _ _⟩
  | _ => cases h <;> exact ⟨rfl, List.cons_ne_nil _ _⟩

theorem takeSemis_print (ts : Toks) : (takeSemis ts).1 ++ (takeSemis ts).2 = ts := by
  fun_induction takeSemis ts with
  | case1 rest s r h ih => rw [h] at ih; exact congrArg (p ';' :: ·) ih
  | case2 => rfl

theorem matchedBracesOrSemi_print {ts taken rest : Toks}
    (h : matchedBracesOrSemi ts = .ok (taken, rest)) : taken ++ rest = ts ∧ taken ≠ [] := by
  unfold matchedBracesOrSemi at h
  split at h
  · cases h
  next tk r hs =>
    cases h
    obtain ⟨e, hne⟩ := scanBraceOrSemi_print hs
    exact ⟨by rw [List.append_assoc, takeSemis_print, e], fun hc => hne (List.append_eq_nil_iff.mp hc).1⟩

theorem matchedBracesOrSemi_err {ts : Toks} {e : PErr} (h : matchedBracesOrSemi ts = .error e) :
    e = readPastTheEnd := by
  unfold matchedBracesOrSemi at h
  split at h <;> cases h
  rfl

/-- the three ways `parseBodyItem` succeeds: a signature followed by `;` (kept verbatim), a function
    with a body, anything else up to the first brace group or `;` -/
theorem parseBodyItem_ok {isImpl : Bool} {o : SigOracle} {ts : Toks} {item : BodyItem} {rest : Toks}
    (h : parseBodyItem isImpl o ts = .ok (item, rest)) :
    ∃ attrs r1 vis r2, parseOuterAttrs ts = .ok (attrs, r1) ∧ parseVis r1 = .ok (vis, r2) ∧
      ((((isImpl || !vis.isEmpty) && peekFn r2) = true ∧ ∃ k sig, o.at r2.length = some (k, sig) ∧
          ((r2.drop k = p ';' :: rest ∧ item = .unknown attrs vis (r2.take (k + 1))) ∨
           ((r2.drop k).head? ≠ some (p ';') ∧ ∃ body, matchedBracesOrSemi (r2.drop k) = .ok (body, rest) ∧
              item = .pubFn { attrs := attrs, vis := vis, sig := sig, body := body })))
       ∨ (((isImpl || !vis.isEmpty) && peekFn r2) = false ∧
          ∃ toks, matchedBracesOrSemi r2 = .ok (toks, rest) ∧ item = .unknown attrs vis toks)) := by
  unfold parseBodyItem at h
  split at h
  · cases h
  next attrs r1 ha =>
  split at h
  · cases h
  next vis r2 hv =>
  refine ⟨attrs, r1, vis, r2, ha, hv, ?_⟩
  split at h
  next hc =>
    refine .inl ⟨hc, ?_⟩
    split at h
    · cases h
    next k sig hk =>
    refine ⟨k, sig, hk, ?_⟩
    split at h
    next r4 hd => cases h; exact .inl ⟨hd, rfl⟩
    next hnot =>
      split at h
      · cases h
      next body r4 hm =>
      cases h
      refine .inr ⟨fun hh => ?_, body, hm, rfl⟩
      obtain ⟨r4, e⟩ := List.head?_eq_some_iff.mp hh
      exact hnot r4 e
  next hc =>
    split at h
    · cases h
    next toks r3 hm => cases h; exact .inr ⟨by simpa using hc, toks, hm, rfl⟩

theorem parseBodyItem_err {isImpl : Bool} {o : SigOracle} {ts : Toks} {e : PErr}
    (h : parseBodyItem isImpl o ts = .error e) : e = .syn ∨ e = readPastTheEnd := by
  have ha := parseOuterAttrs_spec ts
  unfold parseBodyItem at h
  repeat' split at h
  all_goals cases h
  · rw [‹parseOuterAttrs ts = _›] at ha; exact .inl ha
  · exact .inl (parseVis_err ‹_›)
  · exact .inl rfl
  · exact .inr (matchedBracesOrSemi_err ‹_›)
  · exact .inr (matchedBracesOrSemi_err ‹_›)

theorem parseBodyItem_print {isImpl : Bool} {o : SigOracle} {ts : Toks} {item : BodyItem} {rest : Toks}
    (h : parseBodyItem isImpl o ts = .ok (item, rest)) :
    rest.length < ts.length ∧ ∀ {body}, OracleOk o body → ts <:+ body → item.print ++ rest = ts := by
  obtain ⟨attrs, r1, vis, r2, ha, hv, hitem⟩ := parseBodyItem_ok h
  have hts : printAttrs attrs ++ vis ++ r2 = ts := by
    have hp := parseOuterAttrs_spec ts
    rw [ha] at hp
    rw [List.append_assoc, parseVis_print hv, hp]
  -- every kind of item takes a non-empty prefix `taken` of what follows `vis`, and prints as `attrs vis taken`
  suffices ∃ taken, taken ≠ [] ∧ taken ++ rest = r2 ∧
      ∀ {body}, OracleOk o body → ts <:+ body → item.print = printAttrs attrs ++ vis ++ taken by
    obtain ⟨taken, hne, rfl, hp⟩ := this
    have := List.length_pos_iff.mpr hne
    exact ⟨by simp [← hts]; omega, fun hok hsuf => by rw [hp hok hsuf, ← hts, List.append_assoc]⟩
  rcases hitem with ⟨-, k, sig, hk, ⟨hd, rfl⟩ | ⟨-, fbody, hm, rfl⟩⟩ | ⟨-, toks, hm, rfl⟩
  · have hr : rest = r2.drop (k + 1) := by rw [← List.tail_drop, hd]; rfl
    refine ⟨r2.take (k + 1), fun hc => ?_, hr ▸ List.take_append_drop _ _, fun _ _ => rfl⟩
    obtain h0 | rfl := List.take_eq_nil_iff.mp hc
    · cases h0
    · simp at hd
  · obtain ⟨e, hne⟩ := matchedBracesOrSemi_print hm
    refine ⟨r2.take k ++ fbody, by simp [hne], by rw [List.append_assoc, e, List.take_append_drop], fun hok hsuf => ?_⟩
    rw [← hok.at ((List.suffix_append _ r2).trans (hts ▸ hsuf)) hk]
    simp [BodyItem.print, FnItem.print]
  · obtain ⟨e, hne⟩ := matchedBracesOrSemi_print hm
    exact ⟨toks, hne, e, fun _ _ => rfl⟩

/-- What the loop returns.  Its only own error is the model's fuel, and the length of the input is enough of it
    (every item takes at least one tree); only the printing clause looks at the oracle. -/
theorem splitBody_spec (isImpl : Bool) (o : SigOracle) (fuel : Nat) (ts : Toks) :
    match splitBody isImpl o fuel ts with
    | .ok items => ∀ {body}, OracleOk o body → ts <:+ body → items.flatMap BodyItem.print = ts
    | .error e => (e = .syn ∨ e = readPastTheEnd) ∨ fuel < ts.length := by
  fun_induction splitBody isImpl o fuel ts with
  | case1 => exact fun _ _ => rfl
  | case2 => exact .inr (Nat.zero_lt_succ _)
  | case3 _ _ _ e hp => exact .inl (parseBodyItem_err hp)
  | case4 _ _ _ item rest hp e hs ih =>
    rw [hs] at ih
    exact ih.imp_right fun h => by have := (parseBodyItem_print hp).1; omega
  | case5 _ _ _ item rest hp its hs ih =>
    rw [hs] at ih
    intro body hok hsuf
    have e := (parseBodyItem_print hp).2 hok hsuf
    rw [List.flatMap_cons, ih hok ((e ▸ List.suffix_append _ rest).trans hsuf), e]

theorem splitBody_enough_fuel (isImpl : Bool) (o : SigOracle) (fuel : Nat) (ts : Toks) (hl : ts.length ≤ fuel) :
    splitBody isImpl o fuel ts ≠ .error (.diag "model: out of fuel") := by
  intro he
  have h := splitBody_spec isImpl o fuel ts
  rw [he] at h
  rcases h with (h | h) | h
  · cases h
  · simp [readPastTheEnd] at h
  · omega

theorem splitBody_print (isImpl : Bool) (o : SigOracle) (body : Toks) (hok : OracleOk o body) :
    ∀ (fuel : Nat) (ts : Toks) (items : List BodyItem), (∃ pre, body = pre ++ ts) →
      splitBody isImpl o fuel ts = .ok items → items.flatMap BodyItem.print = ts := by
  intro fuel ts items ⟨pre, e⟩ h
  have hs := splitBody_spec isImpl o fuel ts
  rw [h] at hs
  exact hs hok ⟨pre, e.symm⟩

/-- the case every caller has: the whole body, with its length as fuel -/
theorem splitBody_whole {isImpl : Bool} {o : SigOracle} {body : Toks} {items : List BodyItem} (hok : OracleOk o body)
    (h : splitBody isImpl o body.length body = .ok items) : items.flatMap BodyItem.print = body :=
  splitBody_print isImpl o body hok _ _ _ ⟨[], rfl⟩ h

/-- the body length is enough fuel: the splitter never reports exhaustion
    (`hok` and the suffix are not needed: `splitBody_enough_fuel`) -/
theorem splitBody_fuel (isImpl : Bool) (o : SigOracle) (body : Toks) (hok : OracleOk o body) :
    ∀ (fuel : Nat) (ts : Toks), (∃ pre, body = pre ++ ts) → ts.length ≤ fuel →
      splitBody isImpl o fuel ts ≠ .error (.diag "model: out of fuel") :=
  fun fuel ts _ => splitBody_enough_fuel isImpl o fuel ts

end Entrait
