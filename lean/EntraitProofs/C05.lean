import EntraitProofs.C10
import EntraitProofs.C15
import EntraitProofs.C12
import EntraitProofs.C06
/-
  C05 — concrete-dependency functions yield a leaf trait any application can adopt.

  Stage 1 (`T_C05`): for a function whose dependency is a concrete type `C` (after stripping
  references and parentheses) the generated trait carries exactly one nested
  `#[::entrait::entrait(unimock = false, mockall = false)]`, and the generated impl is for `C`
  itself — not a blanket impl: its only parameters are the function's own lifted generics, and its
  where clause holds only predicates the user wrote.  The delegating bodies are those of C01.

  Stage 2: the compiler then expands the nested attribute in trait mode.  Under **every** macro variant
  (i.e. both settings of the `unimock` cargo feature) that expansion adds no mock derivation
  (`T_C05_nested_no_mock`), and `C06.T_C06` (trait mode, no delegation-target trait) gives the `Impl<T>`
  forwarding impl `where T: Trait + Sync [+ 'static]`.  `T_C05_two_stage` runs both stages inside the model.
-/
namespace Entrait.C05
open Entrait

theorem count_entraitAttr (opts : Opts) (ind mode fns) (hmode : mode ≠ .rawTrait) (cty : Ty) (subAttrs : List Attr) :
    (unimockAttrOf opts ind mode fns ++ entraitAttrOf (.concrete cty) ++ mockallAttrOf opts ++
      reappliedSubs mode subAttrs).count entraitForTraitAttr = 1 := by
  have hown : ∀ a ∈ unimockAttrOf opts ind mode fns ++ mockallAttrOf opts, a ≠ entraitForTraitAttr := fun a ha hc => by
    obtain ⟨_, hd⟩ := (own_of_mem (depMode := .generic) (by simpa [entraitAttrOf] using ha)).2 (hc ▸ mockKind_entraitAttr)
    cases hd
  have h3 : ∀ a ∈ reappliedSubs mode subAttrs, a ≠ entraitForTraitAttr := fun a ha hc => by
    have := (reappliedSubs_subKind hmode ha).2
    rw [hc] at this
    revert this
    decide
  rw [List.count_append, List.count_append, List.count_append]
  simp only [entraitAttrOf, List.count_singleton, beq_self_eq_true, if_true]
  rw [List.count_eq_zero.mpr fun h => hown _ (List.mem_append_left _ h) rfl,
    List.count_eq_zero.mpr fun h => hown _ (List.mem_append_right _ h) rfl, List.count_eq_zero.mpr fun h => h3 _ h rfl]

theorem T_C05 (v : Variant) (attr : Toks) (item : Item) (out : Out)
    (h : expand v attr item = .ok out) : P_C05 v attr item out.view = true := by
  rcases item with f | m | t | m <;> try rfl
  obtain ⟨a, tg, depMode, im, h1, d, rfl⟩ := expandFn_ok h
  simp only [P_C05, effectiveOpts, h1, optsNoDeps]
  split
  · rfl
  · rename_i hc
    simp only [Bool.or_eq_true, Bool.not_eq_true', not_or, Bool.not_eq_false] at hc
    have hn : (v.apply a.opts).noDepsValue = false := by simpa using hc.1
    obtain ⟨hn', _⟩ | ⟨_, a0, pt, ty, rest, hin, hcase⟩ :=
      analyzeFn_deps_cases (d.analyzedFn (f := f) (by simp [Item.sourceFns]))
    · rw [hn] at hn'; cases hn'
    obtain ⟨_, hdeps⟩ := hcase.resolve_right fun hg => by rw [hc.2] at hg; cases hg.1
    -- the dependency is the concrete `ty.stripRefs`, so that is the dependency mode ..
    have hdm := d.mode
    simp only [Item.traitFns, Item.sourceFns, List.map_cons, List.map_nil, Item.traitFn, detectDepMode, hdeps,
      Item.inputMode, Except.ok.injEq] at hdm
    subst hdm
    -- .. and the trait's generics are what this one function lifts: its `liftedParams`, none of them a lifetime
    have htg := d.generics
    simp only [Item.sourceFns, List.map_cons, List.map_nil, liftedAll, List.flatMap_cons, List.flatMap_nil,
      List.append_nil, hn, lifted_of_concrete hc.2] at htg
    subst htg
    have hl : ∀ q ∈ liftedParams false f.sig, q.isLifetime = false := fun q hq => by
      simp only [liftedParams, List.mem_filter, Bool.and_eq_true, Bool.not_eq_true'] at hq
      exact hq.2.1
    -- the four clauses, on the impl written out: one nested attribute, `Self` type, parameters, where clause
    simp only [hin, Out.view, View.items, Out.inside, Out.after, List.nil_append, mainTrait?, mainImpl?, traitsOf,
      implsOf, List.head?_cons, List.getLast?_singleton, d.impl, genTraitDef,
      count_entraitAttr _ _ _ _ (by decide : InputMode.singleFn ≠ .rawTrait), implSelfTy, implParams, TraitGenerics.add,
      List.nil_append, implWherePreds, beq_self_eq_true, Bool.true_and,
      List.filter_eq_nil_iff.mpr (fun q hq => by simp [hl q hq] : ∀ q ∈ liftedParams false f.sig, ¬ q.isLifetime = true),
      List.filter_eq_self.mpr (fun q hq => by simp [hl q hq] : ∀ q ∈ liftedParams false f.sig, (!q.isLifetime) = true)]
    simp only [wherePredsOk, List.isEmpty_nil, if_true, List.all_eq_true, List.contains_iff_mem, List.mem_filter]
    exact fun q hq => hq.1

theorem nestedAttr_parse :
    parseTraitAttr [i "unimock", p '=', i "false", p ',', i "mockall", p '=', i "false"] =
      .ok { opts := { unimock := some false, mockall := some false } } := by
  -- `Except` has no decidable equality: the kernel evaluates the parser through `toOption` (`by rfl` is slow to check here)
  have ok_of (r : Except PErr TraitAttr) {a} (h : r.toOption = some a) : r = .ok a := by cases r <;> cases h; rfl
  exact ok_of _ (by decide +kernel)

/-- stage 2 never mocks: an explicit `false` beats the fallback of every macro variant -/
theorem T_C05_nested_no_mock (v : Variant) (t : TraitItem) (out : Out)
    (h : expand v [i "unimock", p '=', i "false", p ',', i "mockall", p '=', i "false"] (.trait t) = .ok out) :
    ∀ g ∈ traitsOf out.view.items, mockKinds g = t.attrs.filterMap Attr.mockKind := by
  obtain ⟨a0, h1, _, htr, _⟩ := expandTrait_view h
  cases nestedAttr_parse.symm.trans h1
  have hu : (v.apply { unimock := some false, mockall := some false }).unimockValue = false := by cases v <;> rfl
  have hm : (v.apply { unimock := some false, mockall := some false }).mockallValue = false := by cases v <;> rfl
  simp [htr, delegationTraits, C10.mockKinds_genTraitDef, hu, hm, reappliedSubs]

/-- C05 with the clause that the leaf trait is final (its async methods are what C12 prescribes) -/
theorem T_C05_full (v : Variant) (attr : Toks) (item : Item) (out : Out)
    (h : expand v attr item = .ok out) : P_C05_full v attr item out.view = true := by
  unfold P_C05_full
  rw [T_C05 v attr item out h, Bool.true_and]
  cases item with
  | fn f => simp only [C12.T_C12 v attr (.fn f) out h, Bool.or_true]
  | mod_ m => rfl
  | trait t => rfl
  | impl m => rfl

/-- a generated trait member read back as a trait member of the input syntax -/
def memberAsInput : GenMember → TraitMember
  | .fn as sig _ => .fn { attrs := as, sig := sig }
  | .raw ts => .other ts

/-- the leaf trait as the compiler hands it to the nested `#[::entrait::entrait(unimock = false, mockall = false)]`:
    the nested attribute itself (and what stands above it) is consumed, the attributes below it stay -/
def leafAsInput (g : GenTrait) (below : List Attr) : TraitItem :=
  { attrs := below, vis := g.vis, ident := g.ident
    generics := { params := g.params, preds := g.preds, wtrail := g.wtrail }
    colon := g.colon, supertraits := g.supertraits, strail := g.strail
    members := g.members.map memberAsInput }

theorem noOther_members (fns : List TraitFn) (f : TraitFn → GenMember) (hf : ∀ tf, ∃ as sig b, f tf = .fn as sig b) :
    ((fns.map f).map memberAsInput).any TraitMember.isOther = false := by
  rw [List.any_eq_false]
  intro m hm
  simp only [List.mem_map] at hm
  obtain ⟨g, ⟨tf, _, rfl⟩, rfl⟩ := hm
  obtain ⟨as, sig, b, h⟩ := hf tf
  rw [h]; simp [memberAsInput, TraitMember.isOther]

/-- **C05 end to end**: for a fn the model accepts (the case of interest: a concrete dependency, where the first stage
    writes the nested invocation; the statement does not need it), the generated trait — handed to that nested
    invocation with any attributes `below` left on it — expands (under every macro
    variant, i.e. with or without the `unimock` feature), derives no mock, and its `Impl<T>` impl
    forwards every method to `T: Trait` (`P_C06`): any application can adopt the trait by implementing
    it for its own type. -/
theorem T_C05_two_stage (v v2 : Variant) (attr : Toks) (f : FnItem) (out : Out)
    (h : expand v attr (.fn f) = .ok out) (g : GenTrait) (hg : mainTrait? out.view = some g) (below : List Attr) :
    ∃ out2,
      expand v2 [i "unimock", p '=', i "false", p ',', i "mockall", p '=', i "false"] (.trait (leafAsInput g below)) = .ok out2 ∧
      P_C06 [i "unimock", p '=', i "false", p ',', i "mockall", p '=', i "false"] (.trait (leafAsInput g below)) out2.view = true ∧
      ∀ g2 ∈ traitsOf out2.view.items, mockKinds g2 = below.filterMap Attr.mockKind := by
  obtain ⟨a, tg, depMode, im, _, _, rfl⟩ := expandFn_ok h
  cases hg
  have hmis : specMisuses [i "unimock", p '=', i "false", p ',', i "mockall", p '=', i "false"]
      (.trait (leafAsInput (genTraitDef (v.apply a.opts) .plain depMode f.attrs a.traitVis a.traitIdent tg {}
        ((Item.fn f).traitFns .selfRef (v.apply a.opts)) .singleFn) below)) = some [] := by
    have hno := noOther_members ((Item.fn f).traitFns .selfRef (v.apply a.opts))
      (fun tf => GenMember.fn tf.attrs (makeTraitFnSig tf.sig f.attrs (v.apply a.opts)) none) fun tf => ⟨_, _, _, rfl⟩
    simp only [specMisuses, nestedAttr_parse, delegationMisuses, leafAsInput, genTraitDef, hno, Bool.false_eq_true, if_false,
      List.append_nil]
  obtain ⟨out2, hout2⟩ := C15.T_C15_accepts v2 _ _ hmis
  exact ⟨out2, hout2, C06.T_C06 v2 _ _ out2 hout2, T_C05_nested_no_mock v2 _ out2 hout2⟩

end Entrait.C05
