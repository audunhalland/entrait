import EntraitProofs.Header
import EntraitProofs.FnMode
import EntraitProofs.ImplMode
import EntraitProofs.OptParse
/-
  C03 — same call type.

  `T_C03`: for every fn / mod / impl-block input with lexically valid function names and
  pairwise different type-parameter names per function (anything else is rejected by rustc
  anyway: E0403), seen as a function of (receiver, arguments…) every generated method — the
  trait's declaration and the delegating impl's definition — has
  * exactly the source function's parameter types after the dependency, in order (token for token),
  * the receiver the dependency parameter prescribes: `&self` / `&'a self` for `&D` / `&'a D`,
    `self` for a by-value dependency, `&self` for `no_deps`; in an impl block `__impl: &Impl<T>`
    (after `&self` for dynamic dispatch),
  * the source's lifetime parameters on the method, its `const` / `unsafe` / `extern` qualifiers and
    variadic, and (on the impl) its asyncness and return type,
  * every where-predicate that is not a bound on the dependency's own type parameter still in
    scope (on the method), and
  * generic scoping: the trait declares exactly the type / const parameters of the source
    functions other than the dependency's (`liftedParams`), and the impl names them in order.
  That such an expansion *compiles* (type and borrow checking) is rustc's judgement and is not
  modelled: partial.  A defect of generic scoping across the functions of one module is recorded
  as known finding C03.dupgeneric.
-/
namespace Entrait.C03
open Entrait
open Entrait.C03 (isDepParam)

theorem analyzeFn_fields {kind : ReceiverKind} {opts : Opts} {s : Sig} {tg tg' : TraitGenerics} {tf : TraitFn}
    (h : analyzeFn kind opts s tg = .ok (tf, tg')) :
    tf.sig.generics = removeGenericTypeParams tf.deps s.generics ∧ tf.sig.const_ = s.const_ ∧
    tf.sig.unsafe_ = s.unsafe_ ∧ tf.sig.abi = s.abi ∧ tf.sig.variadic = s.variadic := by
  obtain ⟨_, rfl, _⟩ := analyzeFn_ok h
  exact ⟨rfl, rfl, rfl, rfl, rfl⟩

theorem tyToks_map {g : FnArg → FnArg} (hr : ∀ a, (g a).isRecv = a.isRecv) (ht : ∀ a, tyToks (g a) = tyToks a)
    (xs : List FnArg) : (typedArgs (xs.map g)).map tyToks = (typedArgs xs).map tyToks := by
  rw [typedArgs_map hr, List.map_map]
  exact List.map_congr_left fun a _ => ht a

theorem tyToks_erasePat (xs : List FnArg) :
    (typedArgs (xs.map FnArg.erasePat)).map tyToks = (typedArgs xs).map tyToks :=
  tyToks_map (fun a => by cases a <;> rfl) (fun a => by cases a <;> rfl) xs

theorem tyToks_fixParams (f : String) (xs : List FnArg) :
    (typedArgs (fixParams f xs)).map tyToks = (typedArgs xs).map tyToks :=
  by rw [← tyToks_erasePat, fixParams_shape, tyToks_erasePat]

theorem analyzeFn_tyToks {kind : ReceiverKind} {opts : Opts} {s : Sig} {tg tg' : TraitGenerics} {tf : TraitFn}
    (h : analyzeFn kind opts s tg = .ok (tf, tg')) :
    ∃ r, (typedArgs tf.sig.inputs).map tyToks =
      (typedArgs (modeReceivers kind r)).map tyToks ++ (typedArgs (s.userParams opts.noDepsValue)).map tyToks := by
  obtain ⟨deps, r, tr, _, _, rfl⟩ := analyzeFn_closed h
  refine ⟨r, (tyToks_fixParams ..).trans ?_⟩
  rw [typedArgs, List.filter_append, List.map_append]
  exact congrArg _ (tyToks_map (fun a => by cases a <;> rfl) (fun a => by cases a <;> rfl) _)

theorem sigTypesAgree_fn {opts : Opts} {s : Sig} {tg tg' : TraitGenerics} {tf : TraitFn}
    (h : analyzeFn .selfRef opts s tg = .ok (tf, tg')) (g : Sig)
    (hg : g.inputs = tf.sig.inputs ∧ g.generics = tf.sig.generics ∧ g.const_ = tf.sig.const_ ∧
      g.unsafe_ = tf.sig.unsafe_ ∧ g.abi = tf.sig.abi ∧ g.variadic = tf.sig.variadic) :
    sigTypesAgree opts.noDepsValue 0 s g = true ∧ g.inputs.head? = expectedReceiver opts.noDepsValue s := by
  have hs := fnModeSpec h
  obtain ⟨hgen, hc, hu, ha, hv⟩ := analyzeFn_fields h
  obtain ⟨g1, g2, g3, g4, g5, g6⟩ := hg
  refine ⟨?_, by rw [g1]; exact hs.recv⟩
  unfold sigTypesAgree
  simp only [List.drop_zero, Bool.and_eq_true, beq_iff_eq]
  refine ⟨⟨⟨⟨⟨?_, ?_⟩, by rw [g3, hc]⟩, by rw [g4, hu]⟩, by rw [g5, ha]⟩, by rw [g6, hv]⟩
  · rw [g1]; exact (analyzeFn_tyToks h).elim fun _ e => e
  · rw [g2, hgen]; rfl

theorem predsInScope_ok {opts : Opts} {s : Sig} {tg tg' : TraitGenerics} {tf : TraitFn} {kind : ReceiverKind}
    (h : analyzeFn kind opts s tg = .ok (tf, tg')) (outer : List WherePred) (m : GenMember) (g : Sig)
    (hm : m.sig? = some g) (hg : g.generics = tf.sig.generics) :
    predsInScope opts.noDepsValue outer s m = true := by
  obtain ⟨_, rfl, _⟩ := analyzeFn_ok h
  unfold predsInScope
  rw [hm]
  simp only [List.all_eq_true, Bool.or_eq_true]
  intro q hq
  rw [hg]
  by_cases hkept : q ∈ (removeGenericTypeParams (s.specDeps opts.noDepsValue) s.generics).preds
  · exact .inr (List.contains_iff_mem.mpr hkept)
  · -- `q` is taken off the method: the dependency is a named generic and `q` bounds it
    refine .inl (.inl ?_)
    simp only [removeGenericTypeParams, List.mem_filter, hq, true_and] at hkept
    rcases hdeps : s.specDeps opts.noDepsValue with _ | _ | _ <;> simp only [hdeps] at hkept <;> try exact absurd trivial hkept
    rename_i dn bs
    obtain ⟨hn, _, rfl, _⟩ := specDeps_generic hdeps
    rcases q with ⟨_, bounded, _, _⟩ | _ <;> rcases hdn : s.depGenericName with _ | d <;>
      simp only [hdn, not_true_eq_false] at hkept
    rcases bounded with _ | ⟨_, _, n, f, _⟩ | _ | _ | _ <;> simp [isTypeEqIdent] at hkept
    obtain ⟨rfl, rfl⟩ := hkept
    simp [aboutDep, hn, hdn]

theorem dropIdx_spec (f : String) : ∀ (ps : List GParam) (k idx : Nat) (direct : List Toks),
    findTypeParam f ps k = some (idx, direct) →
      (∀ q ∈ ps, isDepParam f q = false → q ∈ dropIdx ps (idx - k)) ∧
      (nodup ((ps.filter GParam.isType).map GParam.name) = true →
        ∀ q ∈ dropIdx ps (idx - k), q ∈ ps ∧ isDepParam f q = false) := by
  intro ps k idx direct h
  rw [findTypeParam_dropIdx h]
  exact ⟨fun q hq hn => (List.mem_eraseP_of_neg (by simp [hn])).mpr hq,
    fun hnd q hq => ⟨List.mem_of_mem_eraseP hq, not_isDepParam_of_mem_eraseP hnd hq⟩⟩

theorem lifted_params (nd : Bool) (s : Sig) :
    (∀ q ∈ liftedParams nd s, q ∈ (s.lifted nd).1) ∧
    (s.typeParamsDistinct = true → ∀ q ∈ (s.lifted nd).1, q ∈ liftedParams nd s) := by
  unfold liftedParams Sig.lifted
  rcases (if nd then none else s.depGenericName) with _ | f
  · simp [Generics.lifted]
  · simp only [Generics.lifted, List.mem_filter, Bool.and_eq_true, Bool.not_eq_true', Sig.typeParamsDistinct]
    refine ⟨fun q ⟨hq, hl, hd⟩ => ⟨(List.mem_eraseP_of_neg ?_).mpr hq, hl⟩, fun hnd q ⟨hq, hl⟩ =>
      ⟨List.mem_of_mem_eraseP hq, hl, ?_⟩⟩
    · simpa [isDepParam] using hd
    · simpa [isDepParam] using not_isDepParam_of_mem_eraseP hnd hq

theorem analyzeFns_params (kind : ReceiverKind) (opts : Opts) :
    ∀ (sigs : List Sig) (tg tg' : TraitGenerics) (fns : List TraitFn),
      analyzeFns kind opts sigs tg = .ok (fns, tg') →
        ∃ added, tg'.params = tg.params ++ added ∧
          (∀ s ∈ sigs, ∀ q ∈ liftedParams opts.noDepsValue s, q ∈ added) ∧
          ((∀ s ∈ sigs, s.typeParamsDistinct = true) → ∀ q ∈ added, ∃ s ∈ sigs, q ∈ liftedParams opts.noDepsValue s) := by
  intro sigs tg tg' fns h
  obtain ⟨_, rfl, _⟩ := analyzeFns_ok h
  refine ⟨_, rfl, fun s hs q hq => ?_, fun hnd q hq => ?_⟩
  · exact List.mem_flatMap.mpr ⟨s, hs, (lifted_params _ s).1 q hq⟩
  · obtain ⟨s, hs, hq⟩ := List.mem_flatMap.mp hq
    exact ⟨s, hs, (lifted_params _ s).2 (hnd s hs) q hq⟩

theorem scoping_ok (opts : Opts) (sigs : List Sig) (fns : List TraitFn) (tg : TraitGenerics)
    (han : analyzeFns .selfRef opts sigs {} = .ok (fns, tg)) (hnd : ∀ s ∈ sigs, s.typeParamsDistinct = true)
    (t : GenTrait) (im : GenImpl) (ht : t.params = tg.params)
    (hr : im.traitRef = [i t.ident] ++ genericArgs .none tg.params) :
    scopingOk opts.noDepsValue sigs t im = true := by
  obtain ⟨added, hp, ha, hb⟩ := analyzeFns_params .selfRef opts sigs {} tg fns han
  have hp' : tg.params = added := by simpa using hp
  unfold scopingOk
  simp only [Bool.and_eq_true, List.all_eq_true, List.any_eq_true, beq_iff_eq, List.contains_iff_mem]
  refine ⟨⟨?_, ?_⟩, ?_⟩
  · intro s hs q hq
    rw [ht, hp']; exact ha s hs q hq
  · intro q hq
    rw [ht, hp'] at hq
    exact hb hnd q hq
  · rw [hr, ht]
    simp [genericArgs, ImplIndirection.isNone]

theorem perFn_ok {opts : Opts} {s : Sig} {tg tg' : TraitGenerics} {tf : TraitFn} (subs : List Attr)
    (mode : InputMode) (tp ip : List WherePred) (as : List Attr)
    (h : analyzeFn .selfRef opts s tg = .ok (tf, tg')) :
    (declSigOk opts.noDepsValue s (.fn as (makeTraitFnSig tf.sig subs opts) none) &&
     implSigOk opts.noDepsValue s (.fn as tf.sig (some (delegatingBody mode .none tf))) &&
     predsInScope opts.noDepsValue tp s (.fn as (makeTraitFnSig tf.sig subs opts) none) &&
     predsInScope opts.noDepsValue ip s (.fn as tf.sig (some (delegatingBody mode .none tf)))) = true := by
  have hs := fnModeSpec h
  obtain ⟨_, _, hm⟩ := makeTraitFnSig_shape tf.sig subs opts
  have hd := sigTypesAgree_fn h (makeTraitFnSig tf.sig subs opts) (by rw [hm]; exact ⟨rfl, rfl, rfl, rfl, rfl, rfl⟩)
  have hi := sigTypesAgree_fn h tf.sig ⟨rfl, rfl, rfl, rfl, rfl, rfl⟩
  have hp1 := predsInScope_ok h tp (.fn as (makeTraitFnSig tf.sig subs opts) none) _ rfl (makeTraitFnSig_generics ..)
  have hp2 := predsInScope_ok h ip (.fn as tf.sig (some (delegatingBody mode .none tf))) _ rfl rfl
  simp only [Bool.and_eq_true]
  refine ⟨⟨⟨?_, ?_⟩, hp1⟩, hp2⟩
  · simp only [declSigOk, GenMember.sig?, hd.1, hd.2, beq_self_eq_true, Bool.and_self]
  · simp only [implSigOk, GenMember.sig?, hi.1, hi.2, hs.output, hs.async_, beq_self_eq_true, Bool.and_self]

theorem T_C03_fnmod (v : Variant) (attr : Toks) (item : Item) (out : Out)
    (hm : item.inputMode = .singleFn ∨ item.inputMode = .module)
    (hgen : item.genericsOk = true) (h : expand v attr item = .ok out) :
    P_C03 v attr item out.view = true := by
  obtain ⟨a, tg, depMode, im, h1, d, htr, him⟩ := expand_fnmod_ok h hm
  have hnd : ∀ s ∈ item.sourceFns.map (·.sig), s.typeParamsDistinct = true :=
    List.forall_mem_map.mpr (List.all_eq_true.mp hgen)
  have hsc := scoping_ok (v.apply a.opts) _ _ tg d.analysis hnd
    (genTraitDef (v.apply a.opts) .plain depMode item.attrs a.traitVis a.traitIdent tg {}
      (item.traitFns .selfRef (v.apply a.opts)) item.inputMode) im rfl (by rw [d.impl]; rfl)
  have hper : ∀ f ∈ item.sourceFns, _ := fun f hf =>
    perFn_ok item.attrs item.inputMode tg.preds im.preds (item.traitFn .selfRef (v.apply a.opts) f).attrs (d.analyzedFn hf)
  simp only [Bool.and_eq_true] at hper
  have hmem := d.members_eq
  obtain ⟨f, rfl⟩ | ⟨m, rfl⟩ := Item.fnmod_cases hm <;>
  · simp only [P_C03, effectiveOpts, h1, optsNoDeps, mainTrait?, mainImpl?, htr, him, List.head?_cons,
      List.getLast?_singleton, hsc, Bool.and_true, hmem]
    simp only [genTraitDef, Item.traitFns, List.map_map, zipAll_map_map, Bool.and_eq_true, List.all_eq_true,
      Function.comp, Item.traitFn_sig]
    exact ⟨⟨⟨fun f hf => (hper f hf).1.1.1, fun f hf => (hper f hf).1.1.2⟩, fun f hf => (hper f hf).1.2⟩,
      fun f hf => (hper f hf).2⟩

theorem implBlockSig_ok {dyn : Bool} {opts : Opts} {s : Sig} {tg tg' : TraitGenerics} {tf : TraitFn}
    (hn : opts.noDepsValue = false) (hne : unraw s.ident ≠ "__impl")
    (h : analyzeFn (if dyn then .dynamicImpl else .staticImpl) opts s tg = .ok (tf, tg')) (body : Toks)
    (as : List Attr) :
    implBlockSigOk dyn s (.fn as tf.sig (some body)) = true := by
  have hs := implModeSpec hn h
  obtain ⟨hgen, hc, hu, ha, hv⟩ := analyzeFn_fields h
  obtain ⟨lt, rest, hlt, htyped, _⟩ := hs.impl_first hne
  have htoks : ((typedArgs tf.sig.inputs).map tyToks).drop 1 = (typedArgs (s.inputs.drop 1)).map tyToks := by
    obtain ⟨r, e⟩ := analyzeFn_tyToks h
    rw [e, hn]; cases dyn <;> rfl
  unfold implBlockSigOk
  simp only [GenMember.sig?, Bool.and_eq_true, beq_iff_eq]
  refine ⟨⟨⟨⟨?_, hs.output⟩, hs.async_⟩, by rw [htyped, hlt]; rfl⟩, ?_⟩
  · unfold sigTypesAgree
    simp only [Bool.and_eq_true, beq_iff_eq, Sig.userParams, Bool.false_eq_true, if_false]
    refine ⟨⟨⟨⟨⟨?_, by rw [hgen]; rfl⟩, hc⟩, hu⟩, ha⟩, hv⟩
    rw [List.map_drop, htoks]
  · rcases hs.head with ⟨rfl, hh⟩ | ⟨rfl, hh⟩
    · obtain ⟨rest', hfp'⟩ := fixParams_impl s.ident hne s.depRefLifetime ((s.inputs.drop 1).map FnArg.stripAttrs)
      simp only [Bool.false_eq_true, if_false, beq_iff_eq]
      rw [hh, show implRecvOf false s = implReceiverWith s.depRefLifetime from rfl, hfp']
      rfl
    · simp only [if_true, beq_iff_eq]; exact hh

theorem T_C03_impl (v : Variant) (attr : Toks) (m : ImplItemIn) (out : Out)
    (hid : (Item.impl m).identsOk = true) (h : expand v attr (.impl m) = .ok out) :
    P_C03 v attr (.impl m) out.view = true := by
  obtain ⟨a, tg, depMode, im, h1, d, _, him⟩ := expandImpl_view h
  have hnd : (v.apply a.opts).noDepsValue = false := impl_noDepsValue h1
  obtain ⟨hdm, hp, hs, hw⟩ := d.header_eq
  obtain ⟨hself, hpre, _, _⟩ := header_implBlock hnd d.analysis hdm hp (by rw [d.impl]) hs hw
  simp only [P_C03, h1, mainImpl?, him, List.getLast?_singleton, Bool.and_eq_true, beq_iff_eq]
  refine ⟨⟨?_, hself⟩, hpre⟩
  rw [d.members_eq, zipAll_map_left, zipAll_map_self, List.all_eq_true]
  exact fun f hf => implBlockSig_ok hnd ((Item.identOk_of_mem hid hf).2 rfl) (d.analyzedFn hf) _ _

theorem T_C03 (v : Variant) (attr : Toks) (item : Item) (out : Out)
    (hid : item.identsOk = true) (hgen : item.genericsOk = true) (h : expand v attr item = .ok out) :
    P_C03 v attr item out.view = true := by
  cases item with
  | fn f => exact T_C03_fnmod v attr _ out (.inl rfl) hgen h
  | mod_ m => exact T_C03_fnmod v attr _ out (.inr rfl) hgen h
  | trait t => rfl
  | impl m => exact T_C03_impl v attr m out hid h

/-- the recorded defect of generic scoping: two functions of one module that each declare a
    type parameter `T` give the trait `T` twice (`traitParamsNodup` is false of the model too) -/
theorem C03_dupgeneric_witness :
    let sigOf (name : String) : Sig :=
      { ident := name
        generics := { params := [.ty [] "D" [] false none, .ty [] "T" [] false none] }
        inputs := [.typed [] (.ident false false "d" none) (.ref_ none false (.path false false 1 "D" [i "D"])),
                   .typed [] (.ident false false "t" none) (.path false false 1 "T" [i "T"])] }
    (match analyzeFns .selfRef {} [sigOf "a", sigOf "b"] {} with
     | .ok (_, tg) => tg.params.map GParam.name
     | .error _ => []) = ["T", "T"] := by decide +kernel

end Entrait.C03
