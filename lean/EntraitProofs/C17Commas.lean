import EntraitModel.Opts
/-
  The comma-separated argument list of an attribute: `splitCommas`, and its inverse `attrOf` on lists of comma-free
  segments.  C17 states its clauses over such lists; C15 needs them to say which leaf of the argument list a
  diagnostic of the option parser points at.
-/
namespace Entrait.C17
open Entrait

def isComma : TT → Bool
  | .punct ',' => true
  | _ => false

def CommaFree (seg : Toks) : Prop := ∀ t ∈ seg, isComma t = false

theorem isComma_iff {t : TT} : isComma t = true ↔ t = .punct ',' := by
  unfold isComma
  split <;> simp_all

theorem splitCommas_cons_comma (rest : Toks) : splitCommas (.punct ',' :: rest) = [] :: splitCommas rest :=
  splitCommas.eq_2 rest

theorem splitCommas_cons_other {t : TT} (ht : isComma t = false) {rest seg : Toks} {segs : List Toks}
    (h : splitCommas rest = seg :: segs) : splitCommas (t :: rest) = (t :: seg) :: segs := by
  rw [splitCommas.eq_3 t rest (fun h => by rw [isComma_iff.mpr h] at ht; cases ht), h]

/-- `splitCommas` by its graph: a comma opens a new segment, any other token joins the first one
    (the list is never empty: the `[]` branch in the definition is dead). -/
theorem splitCommas_rec {P : Toks → List Toks → Prop} (nil : P [] [[]])
    (comma : ∀ rest seg segs, P rest (seg :: segs) → P (.punct ',' :: rest) ([] :: seg :: segs))
    (other : ∀ t rest seg segs, isComma t = false → P rest (seg :: segs) → P (t :: rest) ((t :: seg) :: segs)) :
    ∀ ts, P ts (splitCommas ts) ∧ splitCommas ts ≠ []
  | [] => ⟨nil, by simp [splitCommas]⟩
  | t :: rest => by
      obtain ⟨ih, hne⟩ := splitCommas_rec nil comma other rest
      match hs : splitCommas rest, hne with
      | seg :: segs, _ =>
        rw [hs] at ih
        cases ht : isComma t with
        | true =>
          rw [isComma_iff.mp ht, splitCommas_cons_comma, hs]
          exact ⟨comma rest seg segs ih, by simp⟩
        | false =>
          rw [splitCommas_cons_other ht hs]
          exact ⟨other t rest seg segs ht ih, by simp⟩

theorem splitCommas_append (xs ys : Toks) :
    splitCommas (xs ++ .punct ',' :: ys) = splitCommas xs ++ splitCommas ys :=
  (splitCommas_rec (P := fun xs segs => splitCommas (xs ++ .punct ',' :: ys) = segs ++ splitCommas ys)
    (splitCommas_cons_comma ys)
    (fun rest seg segs ih => by rw [List.cons_append, splitCommas_cons_comma, ih]; rfl)
    (fun t rest seg segs ht ih => by rw [List.cons_append, splitCommas_cons_other ht ih]; rfl) xs).1

theorem splitCommas_commaFree (seg : Toks) (h : CommaFree seg) : splitCommas seg = [seg] := by
  induction seg with
  | nil => rfl
  | cons t rest ih =>
    exact splitCommas_cons_other (h t List.mem_cons_self) (ih fun x hx => h x (List.mem_cons_of_mem _ hx))

theorem splitCommas_snoc (pre seg : Toks) (hs : CommaFree seg) :
    splitCommas (pre ++ .punct ',' :: seg) = splitCommas pre ++ [seg] := by
  rw [splitCommas_append, splitCommas_commaFree seg hs]

theorem splitCommas_mid (pre seg post : Toks) (hs : CommaFree seg) :
    splitCommas (pre ++ .punct ',' :: (seg ++ .punct ',' :: post)) = splitCommas pre ++ seg :: splitCommas post := by
  rw [splitCommas_append, splitCommas_append, splitCommas_commaFree seg hs]
  rfl

/-- the argument list written from its comma-separated segments -/
def attrOf (segs : List Toks) : Toks := joinSep [p ','] segs

theorem attrOf_cons_ne (a : Toks) {segs : List Toks} (h : segs ≠ []) : attrOf (a :: segs) = a ++ [p ','] ++ attrOf segs := by
  cases segs with
  | nil => exact absurd rfl h
  | cons y ys => simp [attrOf, joinSep]

theorem splitCommas_attrOf : ∀ (segs : List Toks), segs ≠ [] → (∀ s ∈ segs, CommaFree s) →
    splitCommas (attrOf segs) = segs
  | [], h, _ => absurd rfl h
  | [x], _, hc => splitCommas_commaFree x (hc x List.mem_cons_self)
  | x :: y :: rest, _, hc => by
      have ih := splitCommas_attrOf (y :: rest) (by simp) (fun s hs => hc s (List.mem_cons_of_mem _ hs))
      rw [attrOf_cons_ne x (List.cons_ne_nil y rest), List.append_assoc]
      refine (splitCommas_append x (attrOf (y :: rest))).trans ?_
      rw [splitCommas_commaFree x (hc x List.mem_cons_self), ih]
      rfl

/-- every argument list is `attrOf` of its segments, which are comma-free (`commaFree_of_split`): the theorems below
    are stated over such segment lists -/
theorem attrOf_splitCommas : ∀ ts : Toks, attrOf (splitCommas ts) = ts := fun ts =>
  (splitCommas_rec (P := fun ts segs => attrOf segs = ts) rfl
    (fun rest seg segs ih => by rw [← ih]; rfl)
    (fun t rest seg segs _ ih => by
      cases segs with
      | nil => rw [← ih]; rfl
      | cons s ss => rw [← ih]; rfl) ts).1

theorem commaFree_of_split : ∀ (ts : Toks), ∀ s ∈ splitCommas ts, CommaFree s := fun ts =>
  (splitCommas_rec (P := fun _ segs => ∀ s ∈ segs, CommaFree s)
    (fun s hs => by rw [List.mem_singleton.mp hs]; intro t ht; cases ht)
    (fun rest seg segs ih s hs => by
      rcases List.mem_cons.mp hs with rfl | hs
      · intro t ht; cases ht
      · exact ih s hs)
    (fun t rest seg segs ht ih s hs => by
      rcases List.mem_cons.mp hs with rfl | hs
      · intro x hx
        rcases List.mem_cons.mp hx with rfl | hx
        · exact ht
        · exact ih seg List.mem_cons_self x hx
      · exact ih s (List.mem_cons_of_mem _ hs)) ts).1

theorem parseFnAttr_attrOf {segs : List Toks} (hne : segs ≠ []) (hc : ∀ s ∈ segs, CommaFree s) :
    parseFnAttr (attrOf segs) = parseFnSegs segs := by
  rw [parseFnAttr, splitCommas_attrOf segs hne hc]

theorem parseTraitAttr_attrOf {segs : List Toks} (hne : attrOf segs ≠ []) (hc : ∀ s ∈ segs, CommaFree s) :
    parseTraitAttr (attrOf segs) = parseTraitSegs segs := by
  have hs : segs ≠ [] := fun h => hne (by rw [h]; rfl)
  rw [parseTraitAttr, if_neg (by simpa using hne), splitCommas_attrOf segs hs hc]

theorem commaFree_cons {a : Toks} {X : List Toks} (ha : CommaFree a) (hX : ∀ s ∈ X, CommaFree s) :
    ∀ s ∈ a :: X, CommaFree s :=
  List.forall_mem_cons.mpr ⟨ha, hX⟩

theorem commaFree_append {A B : List Toks} (hA : ∀ s ∈ A, CommaFree s) (hB : ∀ s ∈ B, CommaFree s) :
    ∀ s ∈ A ++ B, CommaFree s :=
  List.forall_mem_append.mpr ⟨hA, hB⟩

theorem attrOf_ne_nil_of_mem {segs : List Toks} {x : Toks} (hx : x ≠ []) (hm : x ∈ segs) : attrOf segs ≠ [] := by
  match segs, hm with
  | [a], hm => rw [List.mem_singleton.mp hm] at hx; exact hx
  | a :: b :: rest, _ => simp [attrOf, joinSep, p]

theorem ne_nilSeg_of_mem {segs : List Toks} {x : Toks} (hx : x ≠ []) (hm : x ∈ segs) : segs ≠ [[]] :=
  fun h => hx (List.mem_singleton.mp (h ▸ hm))

theorem commaFree_of_all {seg : Toks} (h : seg.all (fun t => !isComma t) = true) : CommaFree seg := by
  intro t ht
  simpa using List.all_eq_true.mp h t ht

end Entrait.C17
