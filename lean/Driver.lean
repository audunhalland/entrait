import EntraitModel.Wire
import EntraitModel.Obs
/-
  Line-protocol driver: reads the case lines written by the harness (real macro output
  included), runs the model on the same input, and reports per case the agreement of
  outcomes, tokens and structure and, per property, the projection agreement and the value of
  the property predicate on the model's and on the real expansion.
-/
open Entrait Entrait.Wire

mutual
partial def showTT : TT → String
  | .ident s => s
  | .punct c => String.singleton c
  | .lit s => s
  | .group d ts =>
      let (o, c) := match d with
        | .paren => ("(", ")") | .brace => ("{", "}") | .bracket => ("[", "]") | .none => ("⟦", "⟧")
      o ++ " " ++ showToks ts ++ (if ts.isEmpty then "" else " ") ++ c
partial def showToks (ts : Toks) : String := " ".intercalate (ts.map showTT)
end

-- a token list in the wire syntax of the harness: [T i:name p:, l:<hex> (p .. ) ]
mutual
partial def wireTT : TT → String
  | .ident s => "i:" ++ s
  | .punct c => "p:" ++ c.toString
  | .lit s => "l:" ++ Obs.hexOf s
  | .group d ts =>
      (match d with | .paren => "(p" | .brace => "(b" | .bracket => "(k" | .none => "(n") ++ " " ++ wireInner ts ++ ")"
partial def wireInner (ts : Toks) : String := String.join (ts.map (fun t => wireTT t ++ " "))
end
def wireToks (ts : Toks) : String := "[T " ++ wireInner ts ++ "]"

def outcomeKind : Outcome → String
  | .ok _ => "ok"
  | .diag _ => "diag"
  | .synErr => "syn"
  | .panic _ => "panic"

def realKind : Real → String
  | .ok .. => "ok"
  | .diag .. => "diag"
  | .panic _ => "panic"

/-- entrait's own diagnostics (everything else that arrives as `compile_error!` is syn's) -/
def entraitMessages : List String :=
  [msgNoReceiver, msgSelfReceiver, msgNoSelf, msgNoLeadingColon, msgConcreteInModule, msgConcreteInImpl,
   msgNotAllowedHere, msgCustomWithoutTrait, msgUnsupportedTraitItem, msgMissingDelegateBy,
   "Unsupported option", "Read past the end"]

def isEntraitMessage (m : String) : Bool :=
  entraitMessages.contains m || m.startsWith "Unkonwn entrait option"

def outcomesAgree (m : Outcome) (r : Real) : Bool :=
  match m, r with
  | .ok _, .ok .. => true
  | .diag _, .diag msgs _ => !msgs.isEmpty        -- wording and place of the first one are compared separately (Obs.evalC15)
  | .synErr, .diag msgs _ => !(msgs.any isEntraitMessage)
  | .panic _, .panic _ => true
  | _, _ => false

def bstr (b : Bool) : String := if b then "1" else "0"

def processCase (c0 : Case) (verbose : Bool) (owned : List Toks := []) : List String :=
  -- the real expansion up to the macro's own inert attributes (second pass only, see Obs.stripOwnedToward)
  let c : Case :=
    match c0.item with
    | some item =>
        (match expand c0.variant c0.attr item with
         | .ok out => { c0 with real := Obs.stripOwnedToward owned out.inside out.after c0.real }
         | _ => c0)
    | none => { c0 with real := Obs.stripOwned owned c0.real }
  match c.item with
  | none =>
      -- outside the modelled domain: only the real outcome is reported
      let parsed := match c.real with | .ok _ r => r.parsed | _ => true
      let c15 := !(match c.real with | .panic _ => true | _ => false) && parsed
      [s!"RES {c.id} modelled=0 real={realKind c.real} parsed={bstr parsed} C15=-1{bstr c15} reason={c.unmodelledReason.replace " " "_"}"]
  | some item =>
      let rt := decide (item.print = c.input)
      let m := expand c.variant c.attr item
      let agree := outcomesAgree m c.real
      let (tok, struct_, prefixOk, parsed) :=
        match m, c.real with
        | .ok out, .ok toks r =>
            (decide (out.render = toks),
             -- structure is compared up to the Rust-equivalent respellings of `Obs.alignItems`
             decide (out.inside = Obs.alignItems out.inside r.inside ∧ out.after = Obs.alignItems out.after r.after) &&
               (match out with | .implOut inh _ => decide (inh = r.inherent) | _ => true),
             r.prefixOk, r.parsed)
        | _, .ok _ r => (false, false, r.prefixOk, r.parsed)
        | _, _ => (true, true, true, true)
      let props := Obs.evalAll c.variant c.attr item c.input m c.real c.info ++ " " ++ Obs.evalC15 c.variant c.attr item m c.real (rt && synStable item c.input)
      -- inert attributes found on generated items (before stripping): `hex(tokens inside #[..]):u`, u = the user wrote it too
      let xa := (Obs.inertOnGenerated item c0.real).map (fun (a, u) => s!"{Obs.hexOf (wireToks a.inner)}:{bstr u}")
      let xaS := if xa.isEmpty then "" else " XA=" ++ ",".intercalate xa.eraseDups
      let head := s!"RES {c.id} modelled=1 rt={bstr rt} model={outcomeKind m} real={realKind c.real} agree={bstr agree} tok={bstr tok} struct={bstr struct_} prefix={bstr prefixOk} parsed={bstr parsed} {props}{xaS}"
      if verbose then
        let mt := match m with
          | .ok out => showToks out.render
          | .diag msg => "DIAG " ++ msg
          | .synErr => "SYNERR"
          | .panic s => "PANIC " ++ s
        let rtxt := match c.real with
          | .ok toks _ => showToks toks
          | .diag msgs loci => "DIAG " ++ " | ".intercalate msgs ++ " @ " ++ " | ".intercalate loci
          | .panic s => "PANIC " ++ s
        [head, s!"INPUT {c.id} {showToks c.input}", s!"ATTR {c.id} {showToks c.attr}",
         s!"PRINT {c.id} {showToks item.print}", s!"MODEL {c.id} {mt}", s!"REAL {c.id} {rtxt}"]
      else [head]

partial def loop (h : IO.FS.Stream) (out : IO.FS.Stream) (verbose : Bool) (owned : List Toks := []) : IO Unit := do
  let line ← h.getLine
  if line.isEmpty then return ()
  let line := line.trimAscii.toString
  if line.startsWith "[lexerr" then
    out.putStrLn s!"LEXERR {line}"
  else
    match parseLine line with
    | none => out.putStrLn "BADLINE"
    | some sx =>
      match dCase sx with
      | none => out.putStrLn s!"BADCASE {(line.take 80).toString}"
      | some c => for l in processCase c verbose owned do out.putStrLn l
  loop h out verbose owned

def main (args : List String) : IO UInt32 := do
  let verbose := args.contains "--verbose"
  let files := args.filter (fun a => !a.startsWith "--")
  let out ← IO.getStdout
  -- second pass: `--owned=<file>`, one attribute per line in the wire syntax of token lists
  let owned : List Toks ←
    match args.find? (fun a => a.startsWith "--owned=") with
    | some a => do
        let txt ← IO.FS.readFile ((a.drop 8).toString)
        pure ((txt.splitOn "\n").filterMap (fun l =>
          let l := l.trimAscii.toString
          if l.isEmpty then none else (parseLine l).bind dToks))
    | none => pure []
  match files with
  | [] => loop (← IO.getStdin) out verbose owned
  | f :: _ =>
      let h ← IO.FS.Handle.mk f .read
      loop (IO.FS.Stream.ofHandle h) out verbose owned
  return 0
