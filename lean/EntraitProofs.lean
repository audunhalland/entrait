import EntraitProofs.C01
import EntraitProofs.C01Sem
import EntraitProofs.C01View
import EntraitProofs.C02
import EntraitProofs.C03
import EntraitProofs.C03Closed
import EntraitProofs.C04
import EntraitProofs.C04Sem
import EntraitProofs.C05
import EntraitProofs.C05Sem
import EntraitProofs.C06
import EntraitProofs.C06Sem
import EntraitProofs.C06View
import EntraitProofs.C07
import EntraitProofs.C07Sem
import EntraitProofs.C07View
import EntraitProofs.C08
import EntraitProofs.C09
import EntraitProofs.C10
import EntraitProofs.C10Sem
import EntraitProofs.C10View
import EntraitProofs.C11
import EntraitProofs.C11Sem
import EntraitProofs.C12
import EntraitProofs.C12Sem
import EntraitProofs.C13
import EntraitProofs.C13Scope
import EntraitProofs.C14
import EntraitProofs.C14Full
import EntraitProofs.C15
import EntraitProofs.C15Locus
import EntraitProofs.C15LocusAttr
import EntraitProofs.C16
import EntraitProofs.C17Commas
import EntraitProofs.C17
import EntraitProofs.C18
import EntraitProofs.C18Sem
import EntraitProofs.C19
import EntraitProofs.C19Sem
import EntraitProofs.C20
import EntraitProofs.Deps
import EntraitProofs.Examples
import EntraitProofs.FnMode
import EntraitProofs.ImplMode
import EntraitProofs.Analysis
import EntraitProofs.Anatomy
import EntraitProofs.Codegen
import EntraitProofs.Header
import EntraitProofs.Lists
import EntraitProofs.ObsLemmas
import EntraitProofs.OptParse
import EntraitProofs.Params
import EntraitProofs.Slices
import EntraitProofs.Split
